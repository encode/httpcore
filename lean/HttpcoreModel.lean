import HttpcoreModel.Basic
import HttpcoreModel.Generated
import HttpcoreModel.Backoff
import HttpcoreModel.Url
import HttpcoreModel.Drv.C19
import HttpcoreModel.Drv.C20
import HttpcoreModel.Extractor
import HttpcoreModel.Drv.H1
import HttpcoreModel.Drv.H1W
import HttpcoreModel.Pool
import HttpcoreModel.Drv.Pool
import HttpcoreModel.Establish
import HttpcoreModel.Drv.Est
import HttpcoreModel.Drv.C15
import HttpcoreModel.H2
import HttpcoreModel.Props.C12
import HttpcoreModel.Props.C13
import HttpcoreModel.Props.C14
import HttpcoreModel.Drv.H2
import HttpcoreModel.Props.C02H2
import HttpcoreModel.Unasync
import HttpcoreModel.Props.C18
import HttpcoreModel.Drv.Unasync
import HttpcoreModel.Props.C01
import HttpcoreModel.Props.C08
import HttpcoreModel.Props.C02Chunked
import HttpcoreModel.Props.C13Multi
import HttpcoreModel.Drv.Sys
import HttpcoreModel.Props.C08Global
import HttpcoreModel.Props.C05Pool
import HttpcoreModel.Props.C04Threads
import HttpcoreModel.Props.Life
import HttpcoreModel.Drv.Life
import HttpcoreModel.Props.Backend
import HttpcoreModel.Drv.Backend
import HttpcoreModel.Props.C03Parse
import HttpcoreModel.Props.C02Head
import HttpcoreModel.Props.Wrap
import HttpcoreModel.Drv.Wrap
import HttpcoreModel.Props.C02HeadSpelled
import HttpcoreModel.Props.C03
import HttpcoreModel.Props.C06
import HttpcoreModel.Props.C07
import HttpcoreModel.Props.C10
import HttpcoreModel.Props.C11
import HttpcoreModel.Props.C15
import HttpcoreModel.Props.C16
import HttpcoreModel.Props.C17
import HttpcoreModel.Props.C19
import HttpcoreModel.Props.C20
