import HttpcoreModel.Lemmas.Decimal
/-! Well-formed URL components, their rendering, and the step lemmas used by `C19.parse_render`. -/
namespace Httpcore.Url
open Httpcore

structure Comp where
  scheme : Bytes          -- as written (any case)
  userinfo : Option Bytes
  host : Bytes            -- reg-name / IPv4 as written, or the IPv6 literal without its brackets
  ipv6 : Bool
  port : Option Bytes     -- the digits as written (possibly none at all: `host:`)
  path : Bytes
  query : Option Bytes
  fragment : Option Bytes

def clean (b : Nat) : Prop := 33 ≤ b ∧ b < 128

/-- RFC 3986 shaped components (see DESIGN.md, C19): decidable, explicit. -/
structure Comp.WF (c : Comp) : Prop where
  scheme_head : ∃ h t, c.scheme = h :: t ∧ isAlpha h = true
  scheme_chars : ∀ x ∈ c.scheme, isSchemeChar x = true
  userinfo_ok : ∀ u, c.userinfo = some u →
    ∀ x ∈ u, clean x ∧ x ≠ 47 ∧ x ≠ 63 ∧ x ≠ 35 ∧ x ≠ 64 ∧ x ≠ 91 ∧ x ≠ 93
  host6 : c.ipv6 = true → validIPv6 c.host = true ∧ ∀ x ∈ c.host, isHex x = true ∨ x = 58
  hostReg : c.ipv6 = false → ∀ x ∈ c.host,
    clean x ∧ x ≠ 47 ∧ x ≠ 63 ∧ x ≠ 35 ∧ x ≠ 64 ∧ x ≠ 91 ∧ x ≠ 93 ∧ x ≠ 58 ∧ x ≠ 37
  port_ok : ∀ p, c.port = some p → (∀ x ∈ p, isDigit x = true) ∧ digitsToNat p ≤ 65535
  path_head : c.path = [] ∨ ∃ t, c.path = 47 :: t
  path_ok : ∀ x ∈ c.path, clean x ∧ x ≠ 63 ∧ x ≠ 35
  query_ok : ∀ q, c.query = some q → ∀ x ∈ q, clean x ∧ x ≠ 35
  fragment_ok : ∀ f, c.fragment = some f → ∀ x ∈ f, clean x

def optPre (pre : Nat) : Option Bytes → Bytes
  | none => []
  | some b => pre :: b

def Comp.hostText (c : Comp) : Bytes := if c.ipv6 then 91 :: c.host ++ [93] else c.host
def Comp.hostPort (c : Comp) : Bytes := c.hostText ++ optPre 58 c.port
def Comp.netloc (c : Comp) : Bytes :=
  (match c.userinfo with | none => [] | some u => u ++ [64]) ++ c.hostPort
def Comp.pathQuery (c : Comp) : Bytes := c.path ++ optPre 63 c.query
def Comp.tail (c : Comp) : Bytes := c.pathQuery ++ optPre 35 c.fragment
def Comp.render (c : Comp) : Bytes := c.scheme ++ 58 :: 47 :: 47 :: (c.netloc ++ c.tail)

/-- what RFC 3986 component splitting yields -/
def Comp.expected (c : Comp) : URL :=
  { scheme := lower c.scheme
    host := lower c.host
    port := match c.port with
      | none => none
      | some [] => none
      | some (d :: ds) => some (digitsToNat (d :: ds))
    target := (if c.path.isEmpty then [47] else c.path) ++
      (match c.query with | some q => if q.isEmpty then [] else 63 :: q | none => []) }

theorem partition_optPre (sep : Nat) {a : Bytes} (o : Option Bytes) (ha : sep ∉ a) :
    partition sep (a ++ optPre sep o) = (a, o) := by
  have h : ∀ x ∈ a, (x != sep) = true := fun x hx => bne_iff_ne.mpr fun e => ha (e ▸ hx)
  cases o <;> simp [partition, optPre, -List.append_nil, List.takeWhile_append_of_pos h,
    List.dropWhile_append_of_pos h]

theorem partition_append_sep (sep : Nat) {a : Bytes} (b : Bytes) (ha : sep ∉ a) :
    partition sep (a ++ sep :: b) = (a, some b) :=
  partition_optPre sep (some b) ha

theorem partition_none (sep : Nat) {a : Bytes} (ha : sep ∉ a) : partition sep a = (a, none) := by
  simpa [optPre] using partition_optPre sep none ha

theorem mem_optPre {x d : Nat} {o : Option Bytes} :
    x ∈ optPre d o ↔ ∃ b, o = some b ∧ (x = d ∨ x ∈ b) := by
  cases o <;> simp [optPre]

theorem not_mem_of {P : Nat → Prop} {l : Bytes} {d : Nat} (h : ∀ x ∈ l, P x) (hd : ¬ P d) :
    d ∉ l :=
  fun hm => hd (h d hm)

variable {c : Comp}

theorem mem_hostText {x : Nat} :
    x ∈ c.hostText ↔ x ∈ c.host ∨ c.ipv6 = true ∧ (x = 91 ∨ x = 93) := by
  cases h6 : c.ipv6 <;> simp [Comp.hostText, h6, or_left_comm]

/-! Which delimiters the bytes of each part avoid.  A part's lemma is used for a delimiter `d` as
`not_mem_of (part_bytes h) (by simp)`. -/

theorem host_bytes (h : c.WF) : ∀ x ∈ c.host,
    clean x ∧ x ≠ 47 ∧ x ≠ 63 ∧ x ≠ 35 ∧ x ≠ 64 ∧ x ≠ 91 ∧ x ≠ 93 ∧ x ≠ 37 ∧
      (c.ipv6 = false → x ≠ 58) := by
  intro x hx
  cases h6 : c.ipv6 with
  | true =>
    have := (h.host6 h6).2 x hx
    simp [isHex, isDigit] at this
    simp [clean]
    omega
  | false => simp [h.hostReg h6 x hx]

theorem hostPort_bytes (h : c.WF) : ∀ x ∈ c.hostPort,
    x ≠ 64 ∧ clean x ∧ x ≠ 47 ∧ x ≠ 63 ∧ x ≠ 35 ∧ (c.ipv6 = false → x ≠ 91 ∧ x ≠ 93) := by
  simp only [Comp.hostPort, List.mem_append, mem_hostText, mem_optPre]
  rintro x ((hx | ⟨h6, rfl | rfl⟩) | ⟨p, hp, rfl | hx⟩)
  · simp [host_bytes h x hx]
  · simp [clean, h6]
  · simp [clean, h6]
  · simp [clean]
  · have := (h.port_ok p hp).1 x hx
    simp [isDigit] at this
    simp [clean]
    omega

theorem userinfo_bytes (h : c.WF) : ∀ x ∈ (match c.userinfo with | none => [] | some u => u ++ [64]),
    clean x ∧ x ≠ 47 ∧ x ≠ 63 ∧ x ≠ 35 ∧ x ≠ 91 ∧ x ≠ 93 := by
  intro x hx
  split at hx
  · cases hx
  · rename_i u hu
    rcases List.mem_append.mp hx with hx | hx
    · simp [h.userinfo_ok u hu x hx]
    · simp [List.mem_singleton.mp hx, clean]

theorem netloc_bytes (h : c.WF) : ∀ x ∈ c.netloc,
    clean x ∧ x ≠ 47 ∧ x ≠ 63 ∧ x ≠ 35 ∧ (c.ipv6 = false → x ≠ 91 ∧ x ≠ 93) := by
  intro x hx
  rcases List.mem_append.mp hx with hx | hx
  · simp [userinfo_bytes h x hx]
  · exact (hostPort_bytes h x hx).2

theorem pathQuery_bytes (h : c.WF) : ∀ x ∈ c.pathQuery, clean x ∧ x ≠ 35 := by
  simp only [Comp.pathQuery, List.mem_append, mem_optPre]
  rintro x (hx | ⟨q, hq, rfl | hx⟩)
  · simp [h.path_ok x hx]
  · simp [clean]
  · exact h.query_ok q hq x hx

theorem render_bytes (h : c.WF) : ∀ x ∈ c.render, clean x := by
  simp only [Comp.render, Comp.tail, List.mem_append, List.mem_cons, mem_optPre]
  rintro x (hx | rfl | rfl | rfl | hx | hx | ⟨f, hf, rfl | hx⟩)
  · have := h.scheme_chars x hx
    simp [isSchemeChar, isAlpha, isDigit] at this
    unfold clean
    omega
  · simp [clean]
  · simp [clean]
  · simp [clean]
  · exact (netloc_bytes h x hx).1
  · exact (pathQuery_bytes h x hx).1
  · simp [clean]
  · exact h.fragment_ok f hf x hx

theorem any_ge_of_clean {l : Bytes} (h : ∀ x ∈ l, clean x) : l.any (· ≥ 128) = false := by
  simpa [clean] using fun x hx => (h x hx).2

theorem sanitize_of_clean {l : Bytes} (h : ∀ x ∈ l, clean x) : sanitize l = l := by
  have hd : l.dropWhile (· ≤ 32) = l := by
    cases l with
    | nil => rfl
    | cons a t =>
      have : 33 ≤ a := (h a (.head _)).1
      exact List.dropWhile_cons_of_neg (by simp; omega)
  rw [sanitize, hd]
  refine List.filter_eq_self.mpr fun x hx => ?_
  have : 33 ≤ x := (h x hx).1
  simp; omega

theorem splitScheme_render (h : c.WF) :
    splitScheme c.render = (lower c.scheme, 47 :: 47 :: (c.netloc ++ c.tail)) := by
  obtain ⟨hd, tl, hs, ha⟩ := h.scheme_head
  have hall : c.scheme.all isSchemeChar = true := List.all_eq_true.mpr h.scheme_chars
  rw [splitScheme, Comp.render, partition_append_sep 58 _ (not_mem_of h.scheme_chars (by decide))]
  simp only
  rw [hs] at hall ⊢
  simp [ha, hall]

/-- `urlsplit` ends the netloc at the first of `/ ? #` -/
theorem splitNetloc_append {a t : Bytes} (ha : ∀ x ∈ a, (!isNetlocEnd x) = true)
    (ht : ∀ d ∈ t.head?, isNetlocEnd d = true) :
    splitNetloc (47 :: 47 :: (a ++ t)) = (some a, t) := by
  rw [splitNetloc, List.takeWhile_append_of_pos ha, List.dropWhile_append_of_pos ha]
  cases t with
  | nil => simp
  | cons d b => simp [ht d rfl]

theorem tail_head (h : c.WF) : ∀ d ∈ c.tail.head?, isNetlocEnd d = true := by
  rw [Comp.tail, Comp.pathQuery]
  rcases h.path_head with hp | ⟨t, hp⟩
  · rw [hp]
    cases c.query with
    | some q => simp [optPre, isNetlocEnd]
    | none => cases c.fragment <;> simp [optPre, isNetlocEnd]
  · simp [hp, isNetlocEnd]

theorem splitNetloc_render (h : c.WF) :
    splitNetloc (47 :: 47 :: (c.netloc ++ c.tail)) = (some c.netloc, c.tail) :=
  splitNetloc_append (fun x hx => by simp [isNetlocEnd, netloc_bytes h x hx]) (tail_head h)

theorem partition_tail (h : c.WF) : partition 35 c.tail = (c.pathQuery, c.fragment) :=
  partition_optPre 35 _ (not_mem_of (pathQuery_bytes h) (by simp))

theorem partition_pathQuery (h : c.WF) : partition 63 c.pathQuery = (c.path, c.query) :=
  partition_optPre 63 _ (not_mem_of h.path_ok (by simp))

theorem rpartition_optSuf {sep : Nat} {b : Bytes} (o : Option Bytes) (hb : sep ∉ b) :
    rpartition sep ((match o with | none => [] | some u => u ++ [sep]) ++ b) = (o, b) := by
  have hb' : sep ∉ b.reverse := by simpa using hb
  cases o with
  | none => simp [rpartition, partition_none sep hb']
  | some u => simp [rpartition, partition_append_sep sep _ hb']

theorem rpartition_netloc (h : c.WF) : rpartition 64 c.netloc = (c.userinfo, c.hostPort) :=
  rpartition_optSuf _ (not_mem_of (hostPort_bytes h) (by simp))

theorem hostinfo_netloc (h : c.WF) : hostinfo c.netloc = (c.host, c.port) := by
  rw [hostinfo, rpartition_netloc h]
  cases h6 : c.ipv6 with
  | true =>
    -- the `[] ++` let the lemmas about `a ++ sep :: b` and `a ++ optPre sep o` apply with `a = []`
    have hp : c.hostPort = [] ++ 91 :: (c.host ++ 93 :: ([] ++ optPre 58 c.port)) := by
      simp [Comp.hostPort, Comp.hostText, h6]
    simp only [hp, partition_append_sep 91 _ List.not_mem_nil,
      partition_append_sep 93 _ (not_mem_of (host_bytes h) (by simp)),
      partition_optPre 58 _ List.not_mem_nil]
  | false =>
    have hp : c.hostPort = c.host ++ optPre 58 c.port := by simp [Comp.hostPort, Comp.hostText, h6]
    rw [partition_none 91 (not_mem_of (hostPort_bytes h) (by simp [h6]))]
    simp only [hp, partition_optPre 58 _ (not_mem_of (host_bytes h) (by simp [h6]))]

theorem hostnameOf_host (h : c.WF) : hostnameOf c.host = lower c.host := by
  simp [hostnameOf, partition_none 37 (not_mem_of (host_bytes h) (by simp))]

theorem parsePort_port (h : c.WF) : parsePort c.port = .ok c.expected.port := by
  cases hp : c.port with
  | none => simp [parsePort, Comp.expected, hp]
  | some p =>
    cases p with
    | nil => simp [parsePort, Comp.expected, hp]
    | cons d ds =>
      obtain ⟨hd, hn⟩ := h.port_ok _ hp
      simp [parsePort, Comp.expected, hp, List.all_eq_true.mpr hd, hn]

theorem netloc_brackets (h : c.WF) :
    c.netloc.contains 91 = c.ipv6 ∧ c.netloc.contains 93 = c.ipv6 := by
  cases h6 : c.ipv6 with
  | true => simp [Comp.netloc, Comp.hostPort, Comp.hostText, h6]
  | false =>
    simp [not_mem_of (d := 91) (netloc_bytes h) (by simp [h6]),
      not_mem_of (d := 93) (netloc_bytes h) (by simp [h6])]

theorem bracket_content (h : c.WF) (h6 : c.ipv6 = true) :
    (partition 93 ((partition 91 c.netloc).2.getD [])).1 = c.host := by
  have : c.netloc = (match c.userinfo with | none => [] | some u => u ++ [64]) ++
      91 :: (c.host ++ 93 :: optPre 58 c.port) := by
    simp [Comp.netloc, Comp.hostPort, Comp.hostText, h6]
  rw [this, partition_append_sep 91 _ (not_mem_of (userinfo_bytes h) (by simp)), Option.getD,
    partition_append_sep 93 _ (not_mem_of (host_bytes h) (by simp))]

end Httpcore.Url
