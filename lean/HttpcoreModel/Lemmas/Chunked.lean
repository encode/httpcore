import HttpcoreModel.Lemmas.Hex
import HttpcoreModel.Lemmas.H1Drain
import HttpcoreModel.Lemmas.ListSplit
/-! The chunked encoding written by the request writer is decoded exactly by the chunked reader. -/
namespace Httpcore.H1W
open Httpcore Httpcore.H1

theorem findCRLF_prefix (a t : Bytes) (ha : ∀ x ∈ a, x ≠ 13) :
    findCRLF (a ++ 13 :: 10 :: t) = some (a ++ [13, 10], t) := by
  induction a with
  | nil => simp [findCRLF]
  | cons x xs ih =>
    have hx := ha x (List.mem_cons_self ..)
    have ih' := ih fun y hy => ha y (List.mem_cons_of_mem _ hy)
    cases xs with
    | nil => simp [findCRLF, hx]
    | cons y ys => rw [List.cons_append, List.cons_append, findCRLF, ← List.cons_append, ih']; simp [hx]

theorem parseChunkHeader_hex (n : Nat) (hlen : (hexLower n).length ≤ 20) :
    parseChunkHeader (hexLower n ++ [13, 10]) = some n := by
  obtain ⟨hall, hval, hne⟩ := hexLower_spec n
  simp [parseChunkHeader, Url.takeWhile_all _ _ hall, Url.dropWhile_all _ _ hall, hne, Nat.not_lt.mpr hlen, hval]

variable (ri : ReqInfo)

theorem extract_chunkSize_hex (n : Nat) (tail : Bytes) (hlen : (hexLower n).length ≤ 20) :
    extract ri .chunkSize (hexLower n ++ 13 :: 10 :: tail) =
      some (.skip, if n = 0 then .trailers else .chunkData n, tail) := by
  have hno13 : ∀ x ∈ hexLower n, x ≠ 13 := fun x hx h13 => absurd (h13 ▸ (hexLower_spec n).1 x hx) (by decide)
  rw [extract, extractChunkSize_eq]
  refine cutStep_ok (findCRLF_prefix _ tail hno13) ?_
  rw [judgeChunkSize, parseChunkHeader_hex n hlen]
  cases n <;> rfl

/-- the rest of a chunk and the CRLF behind it; the state is the one `extract` goes to after a byte of chunk data -/
theorem drain_chunkData (c tail : Bytes) :
    (reader ri).drain (if c.length = 0 then .chunkDiscard 2 else .chunkData c.length) (c ++ 13 :: 10 :: tail) =
      Extractor.pre (c.map Ev.data ++ [.skip, .skip]) ((reader ri).drain .chunkSize tail) := by
  induction c with
  | nil =>
    rw [List.length_nil, if_pos rfl, List.nil_append,
      drain_step ri (show extract ri (.chunkDiscard 2) (13 :: 10 :: tail) = some (_, .chunkDiscard 1, _) from rfl),
      drain_step ri (show extract ri (.chunkDiscard 1) (10 :: tail) = some (_, .chunkSize, _) from rfl)]
    simp
  | cons b t ih =>
    rw [List.length_cons, if_neg (Nat.succ_ne_zero _), List.cons_append,
      drain_step ri (show extract ri (.chunkData (t.length + 1)) (b :: (t ++ 13 :: 10 :: tail)) = _ from rfl), ih]
    simp

theorem frames_chunked (chunks : List Bytes) (hsz : ∀ c ∈ chunks, (hexLower c.length).length ≤ 20) :
    Frames ri .chunkSize (writeChunked chunks) chunks.flatten := by
  intro rest
  induction chunks with
  | nil =>
    have e1 := extract_chunkSize_hex ri 0 (13 :: 10 :: rest) (by decide)
    have e2 : extract ri .trailers (13 :: 10 :: rest) = some (.eom, .done, rest) := by
      simp [extract, extractTrailers]
    rw [show writeChunked [] ++ rest = hexLower 0 ++ 13 :: 10 :: 13 :: 10 :: rest from rfl,
      drain_step ri e1, if_pos rfl, drain_step ri e2, drain_done]
    simp [absorb]
  | cons c cs ih =>
    obtain ⟨h1, h2⟩ := ih fun c' h => hsz c' (List.mem_cons_of_mem _ h)
    by_cases hc : c = []
    · subst hc
      simpa [writeChunked, chunkEnc] using And.intro h1 h2
    · have hwc : writeChunked (c :: cs) ++ rest =
          hexLower c.length ++ 13 :: 10 :: (c ++ 13 :: 10 :: (writeChunked cs ++ rest)) := by
        simp [writeChunked, chunkEnc, hc, crlf]
      have hpos : c.length ≠ 0 := mt List.length_eq_zero_iff.mp hc
      have hd := drain_chunkData ri c (writeChunked cs ++ rest)
      rw [if_neg hpos] at hd
      rw [hwc, drain_step ri (extract_chunkSize_hex ri _ _ (hsz c (List.mem_cons_self ..))), if_neg hpos, hd]
      simp [Extractor.pre, h1, h2, absorb, foldl_absorb_data]

end Httpcore.H1W
