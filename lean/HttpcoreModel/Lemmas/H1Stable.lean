import HttpcoreModel.H1Read
/-!
`extract` makes progress and is stable under appended data: the reader is an `Extractor`.

The states that wait for a delimiter (head, chunk-size line, trailers) all work alike: a *cutter* finds the delimited piece at the
front of the buffer, a *judge* turns the piece into an event and a next state or refuses it (`cutStep`).  Progress and stability are
proved once for that shape; the byte-at-a-time states are immediate.
-/
namespace Httpcore.H1
open Httpcore

def Cutter (cut : Bytes → Option (Bytes × Bytes)) : Prop :=
  ∀ {b p r}, cut b = some (p, r) → p ≠ [] ∧ b = p ++ r ∧ ∀ x, cut (b ++ x) = some (p, r ++ x)

theorem blankLen_some {l : Bytes} {k : Nat} (h : blankLen l = some k) :
    2 ≤ k ∧ k ≤ l.length ∧ ∀ x, blankLen (l ++ x) = some k := by
  unfold blankLen at h
  split at h <;> cases h <;> simp [blankLen]

theorem blankLen_none {a b c : Nat} {r : Bytes} (h : blankLen (a :: b :: c :: r) = none) (x : Bytes) :
    blankLen (a :: b :: c :: (r ++ x)) = none := by
  unfold blankLen at h ⊢
  split at h
  · cases h
  · cases h
  · next h1 h2 =>
    split
    · next heq => cases heq; exact (h1 _ rfl).elim
    · next heq => cases heq; exact (h2 _ rfl).elim
    · rfl

theorem findBlank_spec {b p r : Bytes} (h : findBlank b = some (p, r)) :
    2 ≤ p.length ∧ b = p ++ r ∧ ∀ x, findBlank (b ++ x) = some (p, r ++ x) := by
  induction b generalizing p with
  | nil => cases h
  | cons y t ih =>
    rw [findBlank] at h
    split at h
    · next k hk =>
      cases h
      obtain ⟨h2, hle, hx⟩ := blankLen_some hk
      refine ⟨by rw [List.length_take]; omega, (List.take_append_drop ..).symm, fun x => ?_⟩
      have hx' := hx x
      rw [List.cons_append] at hx' ⊢
      rw [findBlank, hx']
      show some (List.take k ((y :: t) ++ x), List.drop k ((y :: t) ++ x)) = _
      rw [List.take_append_of_le_length hle, List.drop_append_of_le_length hle]
    · next hnone =>
      split at h
      · next p' r' hrec =>
        cases h
        obtain ⟨h2, rfl, hst⟩ := ih hrec
        refine ⟨Nat.le_succ_of_le h2, rfl, fun x => ?_⟩
        match p', h2 with
        | a :: b :: p', _ =>
          have := hst x
          simp only [List.cons_append] at hnone this ⊢
          rw [findBlank, blankLen_none hnone, this]
      · cases h

theorem findBlank_cutter : Cutter findBlank := fun h =>
  ⟨List.ne_nil_of_length_pos (Nat.lt_of_lt_of_le (by decide) (findBlank_spec h).1), (findBlank_spec h).2⟩

theorem findCRLF_cutter : Cutter findCRLF := by
  intro b p r h
  induction b using findCRLF.induct generalizing p with
  | case1 | case2 => cases h
  | case3 x y t hxy =>
    simp [findCRLF, hxy] at h
    obtain ⟨rfl, rfl⟩ := h
    simp [findCRLF, hxy]
  | case4 x y t hxy p' r' hrec ih =>
    simp [findCRLF, hxy, hrec] at h
    obtain ⟨rfl, rfl⟩ := h
    obtain ⟨-, e, hst⟩ := ih hrec
    refine ⟨nofun, by rw [e]; rfl, fun z => ?_⟩
    have := hst z
    simp only [List.cons_append] at this ⊢
    simp [findCRLF, hxy, this]
  | case5 x y t hxy hrec => simp [findCRLF, hxy, hrec] at h

/-- the step of a state that waits for a delimited piece: `cut` finds the piece, `judge` turns it into an event and a next state
or refuses it; a refused piece stays in the buffer and the reader has failed -/
def cutStep (cut : Bytes → Option (Bytes × Bytes)) (judge : Bytes → Except Err (Ev × St)) (buf : Bytes) :
    Option (Ev × St × Bytes) :=
  match cut buf with
  | none => none
  | some (piece, rest) =>
    match judge piece with
    | .error e => some (.fail e, .failed, buf)
    | .ok (ev, s) => some (ev, s, rest)

section
variable {cut : Bytes → Option (Bytes × Bytes)} {judge : Bytes → Except Err (Ev × St)} {b r : Bytes} {e : Ev} {s' : St}

theorem cutStep_ok {p : Bytes} (hc : cut b = some (p, r)) (hj : judge p = .ok (e, s')) :
    cutStep cut judge b = some (e, s', r) := by
  simp [cutStep, hc, hj]

/-- an accepted piece is gone from the buffer, a refused one lowers the rank; either way the cut, hence the step, is the same
when more data stands behind the buffer -/
theorem cutStep_spec (hc : Cutter cut) {s : St} (hs : rank .failed < rank s) {js : List (Bytes → Except Err (Ev × St))}
    (hm : judge ∈ js) (h : cutStep cut judge b = some (e, s', r)) :
    (r.length < b.length ∨ (r.length = b.length ∧ rank s' < rank s)) ∧
      (∀ x, cutStep cut judge (b ++ x) = some (e, s', r ++ x)) ∧
      ((∃ j ∈ js, ∃ p, j p = .ok (e, s')) ∨ ∃ err, e = .fail err) := by
  unfold cutStep at h
  split at h
  · cases h
  · next p r0 hcut =>
    obtain ⟨hne, eb, hst⟩ := hc hcut
    split at h <;> cases h
    · next err hj => exact ⟨.inr ⟨rfl, hs⟩, fun x => by simp [cutStep, hst x, hj], .inr ⟨err, rfl⟩⟩
    · next hj =>
      have := List.length_pos_iff.mpr hne
      exact ⟨.inl (by rw [eb, List.length_append]; omega), fun x => cutStep_ok (hst x) hj, .inl ⟨judge, hm, p, hj⟩⟩

end

def judgeHead (ri : ReqInfo) (raw : Bytes) : Except Err (Ev × St) :=
  match parseHead raw with
  | .bad e => .error e
  | .ok true h =>
    if h.status = 101 then (if ri.hasUpgrade then .ok (.info h, .switched) else .error .protocol)
    else .ok (.info h, .head)
  | .ok false h => .ok (.response h, afterResponse ri h)

def judgeChunkSize (line : Bytes) : Except Err (Ev × St) :=
  match parseChunkHeader line with
  | none => .error .protocol
  | some 0 => .ok (.skip, .trailers)
  | some (n + 1) => .ok (.skip, .chunkData (n + 1))

def judgeTrailers (raw : Bytes) : Except Err (Ev × St) :=
  match trailersOk raw with
  | some e => .error e
  | none => .ok (.eom, .done)

/-- the head's cutter: a first byte below 0x21 is cut off alone, so that it is refused at once (no single byte is a head),
otherwise search for the blank line -/
def cutHead : Bytes → Option (Bytes × Bytes)
  | [] => none
  | c :: t => if c < 33 then some ([c], t) else findBlank (c :: t)

/-- h11's `maybe_extract_lines`: a lone LF or CRLF at the start is an (empty) block of lines, otherwise search for the blank line -/
def cutLines : Bytes → Option (Bytes × Bytes)
  | [] => none
  | 10 :: t => some ([10], t)
  | c :: t => if c = 13 ∧ t.head? = some 10 then some ([13, 10], t.drop 1) else findBlank (c :: t)

theorem cutHead_eq {b : Bytes} (h : ∀ c ∈ b.head?, 33 ≤ c) : cutHead b = findBlank b := by
  cases b with
  | nil => rfl
  | cons c t => exact if_neg (Nat.not_lt.mpr (h c rfl))

theorem cutHead_cutter : Cutter cutHead := by
  intro b p r h
  cases b with
  | nil => cases h
  | cons c t =>
    by_cases hc : c < 33 <;> simp only [cutHead, hc, if_true, if_false, List.cons_append] at h ⊢
    · cases h; simp
    · exact findBlank_cutter h

theorem cutLines_cutter : Cutter cutLines := by
  intro b p r h
  revert h
  fun_cases cutLines b <;> intro h
  · cases h
  · cases h; simp [cutLines]
  · next c t _ h13 =>
    cases h
    obtain ⟨rfl, ht⟩ := h13
    match t, ht with
    | 10 :: t', _ => simp [cutLines]
  · next c t h10 h13 =>
    cases t with
    | nil => simp [findBlank, blankLen] at h
    | cons d t' =>
      obtain ⟨hne, e, hst⟩ := findBlank_cutter h
      refine ⟨hne, e, fun x => ?_⟩
      rw [← hst x, List.cons_append, List.cons_append, cutLines, if_neg (by simpa using h13)]
      exact h10

theorem parseHead_single (c : Nat) : parseHead [c] = .bad .protocol := by
  by_cases h : c = 10 <;> simp [parseHead, splitLines, splitOnElem, h]

/-! The three delimiter states are `cutStep`s: case by case through the model's definition, both sides compute to the same. -/

theorem extractHead_eq (ri : ReqInfo) (b : Bytes) : extractHead ri b = cutStep cutHead (judgeHead ri) b := by
  fun_cases extractHead ri b <;> simp [cutStep, cutHead, judgeHead, parseHead_single, *]

theorem extractChunkSize_eq (b : Bytes) : extractChunkSize b = cutStep findCRLF judgeChunkSize b := by
  fun_cases extractChunkSize b <;> simp [cutStep, judgeChunkSize, *]

theorem extractTrailers_eq (b : Bytes) : extractTrailers b = cutStep cutLines judgeTrailers b := by
  have e1 : trailersOk [10] = none := by decide
  have e2 : trailersOk [13, 10] = none := by decide
  fun_cases extractTrailers b <;> simp [cutStep, cutLines, judgeTrailers, *]

/-- Every step makes progress, is not disturbed by data that arrives behind the buffer, and is of one of two kinds: a delimiter
state cuts a piece and judges it; any other state hands out the next byte as `data` or `skip`, or (`cl 0` only) ends the message
without consuming anything. -/
theorem extract_spec (ri : ReqInfo) (s : St) (b : Bytes) (e : Ev) (s' : St) (r : Bytes)
    (h : extract ri s b = some (e, s', r)) :
    (r.length < b.length ∨ (r.length = b.length ∧ rank s' < rank s)) ∧
    (∀ x, extract ri s (b ++ x) = some (e, s', r ++ x)) ∧
    (((∃ j ∈ [judgeHead ri, judgeChunkSize, judgeTrailers], ∃ p, j p = .ok (e, s')) ∨ ∃ err, e = .fail err) ∨
      e = .eom ∨ e = .skip ∨ ∃ c, e = .data c) := by
  cases s with
  | head =>
    simp only [extract, extractHead_eq] at h ⊢
    exact (cutStep_spec cutHead_cutter (by decide) (by simp) h).imp_right (.imp_right .inl)
  | chunkSize =>
    simp only [extract, extractChunkSize_eq] at h ⊢
    exact (cutStep_spec findCRLF_cutter (by decide) (by simp) h).imp_right (.imp_right .inl)
  | trailers =>
    simp only [extract, extractTrailers_eq] at h ⊢
    exact (cutStep_spec cutLines_cutter (by decide) (by simp) h).imp_right (.imp_right .inl)
  | cl n =>
    cases n with
    | zero => cases h; exact ⟨.inr ⟨rfl, by decide⟩, fun _ => rfl, .inr (.inl rfl)⟩
    | succ n => cases b <;> cases h; exact ⟨.inl (Nat.lt_succ_self _), fun _ => rfl, .inr (.inr (.inr ⟨_, rfl⟩))⟩
  | chunkData n => cases n <;> cases b <;> cases h; exact ⟨.inl (Nat.lt_succ_self _), fun _ => rfl, .inr (.inr (.inr ⟨_, rfl⟩))⟩
  | chunkDiscard n => cases n <;> cases b <;> cases h; exact ⟨.inl (Nat.lt_succ_self _), fun _ => rfl, .inr (.inr (.inl rfl))⟩
  | untilClose => cases b <;> cases h; exact ⟨.inl (Nat.lt_succ_self _), fun _ => rfl, .inr (.inr (.inr ⟨_, rfl⟩))⟩
  | done | switched | failed => cases h

theorem extract_progress (ri : ReqInfo) (s : St) (b : Bytes) (e : Ev) (s' : St) (r : Bytes)
    (h : extract ri s b = some (e, s', r)) :
    r.length < b.length ∨ (r.length = b.length ∧ rank s' < rank s) :=
  (extract_spec ri s b e s' r h).1

theorem extract_stable (ri : ReqInfo) (s : St) (b : Bytes) (e : Ev) (s' : St) (r x : Bytes)
    (h : extract ri s b = some (e, s', r)) : extract ri s (b ++ x) = some (e, s', r ++ x) :=
  (extract_spec ri s b e s' r h).2.1 x

end Httpcore.H1
