import HttpcoreModel.Url
/-! `takeWhile`/`dropWhile` on a concatenation whose first part passes the test (from core's
`List.takeWhile_append_of_pos`, `List.dropWhile_append_of_pos`). -/
namespace Httpcore.Url
open Httpcore

variable {α : Type _} (p : α → Bool) (a : List α)

theorem takeWhile_append_stop (d : α) (b : List α) (ha : ∀ x ∈ a, p x = true) (hd : p d = false) :
    (a ++ d :: b).takeWhile p = a := by
  simp [List.takeWhile_append_of_pos ha, hd]

theorem dropWhile_append_stop (d : α) (b : List α) (ha : ∀ x ∈ a, p x = true) (hd : p d = false) :
    (a ++ d :: b).dropWhile p = d :: b := by
  simp [List.dropWhile_append_of_pos ha, hd]

theorem takeWhile_all (ha : ∀ x ∈ a, p x = true) : a.takeWhile p = a := by
  simpa using List.takeWhile_append_of_pos (l₂ := []) ha

theorem dropWhile_all (ha : ∀ x ∈ a, p x = true) : a.dropWhile p = [] := by
  simpa using List.dropWhile_append_of_pos (l₂ := []) ha

end Httpcore.Url
