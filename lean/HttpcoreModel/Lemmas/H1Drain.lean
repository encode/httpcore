import HttpcoreModel.H1Obs
/-! What `drain` does in the states of the response reader, and what the caller then observes. -/
namespace Httpcore.H1
open Httpcore Extractor

variable (ri : ReqInfo)

theorem drain_step {s : St} {b : Bytes} {e : Ev} {s' : St} {r : Bytes} (h : extract ri s b = some (e, s', r)) :
    (reader ri).drain s b = pre [e] ((reader ri).drain s' r) :=
  (reader ri).drain_some h

theorem drain_stop {s : St} {b : Bytes} (h : extract ri s b = none) : (reader ri).drain s b = ([], s, b) :=
  (reader ri).drain_none h

@[simp] theorem drain_done (b : Bytes) : (reader ri).drain .done b = ([], .done, b) := drain_stop ri rfl
@[simp] theorem drain_switched (b : Bytes) : (reader ri).drain .switched b = ([], .switched, b) := drain_stop ri rfl
@[simp] theorem drain_failed (b : Bytes) : (reader ri).drain .failed b = ([], .failed, b) := drain_stop ri rfl

@[simp] theorem drain_cl_zero (b : Bytes) : (reader ri).drain (.cl 0) b = ([.eom], .done, b) := by
  rw [drain_step ri (show extract ri (.cl 0) b = _ from rfl), drain_done]; rfl

theorem drain_cl_run (body rest : Bytes) (n : Nat) :
    (reader ri).drain (.cl (body.length + n)) (body ++ rest) = pre (body.map Ev.data) ((reader ri).drain (.cl n) rest) := by
  induction body with
  | nil => simp
  | cons b t ih =>
    have h : extract ri (.cl ((b :: t).length + n)) (b :: t ++ rest) = some (.data b, .cl (t.length + n), t ++ rest) := by
      rw [List.length_cons, Nat.add_right_comm]; rfl
    rw [drain_step ri h, ih]; simp

theorem drain_untilClose (body : Bytes) :
    (reader ri).drain .untilClose body = (body.map Ev.data, .untilClose, []) := by
  induction body with
  | nil => exact drain_stop ri rfl
  | cons b t ih => rw [drain_step ri (show extract ri .untilClose (b :: t) = _ from rfl), ih]; rfl

theorem feedAll_head (segs : List Bytes) :
    (reader ri).feedAll ([], .head, []) segs = (reader ri).drain .head segs.flatten :=
  (reader ri).feedAll_start .head segs rfl

theorem observe_response (h : Head) (evs : List Ev) : observe (.response h :: evs) = evs.foldl absorb { head := some h } := rfl

@[simp] theorem atEof_head (o : Obs) (s : St) (b : Bytes) : (atEof o s b).head = o.head := by
  unfold atEof
  split
  · split <;> rfl
  · rfl

/-- body framing `s` reads the wire image `w` as `body`: whatever follows `w`, the reader delivers exactly the bytes of
`body`, ends the message, and leaves what follows -/
def Frames (s : St) (w body : Bytes) : Prop :=
  ∀ rest, ((reader ri).drain s (w ++ rest)).2 = (.done, rest) ∧
    ∀ o, ((reader ri).drain s (w ++ rest)).1.foldl absorb o =
      { o with bodyRev := body.reverse ++ o.bodyRev, outcome := .complete }

theorem frames_cl (body : Bytes) : Frames ri (.cl body.length) body body := by
  intro rest
  have := drain_cl_run ri body rest 0
  rw [Nat.add_zero, drain_cl_zero] at this
  simp [this, foldl_absorb_data, absorb]

end Httpcore.H1
