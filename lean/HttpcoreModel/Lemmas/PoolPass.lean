import HttpcoreModel.Pool
/-!
# The two loops of the assignment pass, characterised once

`cleanup` is a loop with two accumulators whose decision for a connection depends on the pool content at that moment.  Everything
the property files need about it is in three facts: the surviving list is a sublist of the initial one (`cleanup_sublist`), a
survivor of the snapshot was *kept* by `verdict` at some intermediate pool content that still contains all survivors
(`cleanup_kept`), and a new entry of the closing list was *closed* by `verdict` at such a content (`cleanup_closed`).
`assignOne` has four outcomes (`assignOne_cases`: reuse the first available connection and reserve it; create, there being room;
evict the first free idle connection and create; wait), and `assignAll` an invariant rule (`assignAll_induct`).
-/
namespace Httpcore.Pool

/-! ## the house-keeping loop -/

theorem isReserved_iff {res : List Nat} {c : Conn} : isReserved res c = true ↔ c.id ∈ res :=
  List.contains_iff_mem

theorem isReserved_eq_false {res : List Nat} {c : Conn} : isReserved res c = false ↔ c.id ∉ res :=
  Bool.eq_false_iff.trans (not_congr isReserved_iff)

/-- what one iteration of the house-keeping loop does with `c` while the pool holds `cur`: `none` = kept; `some why` = removed, and
handed to `_close_connections` iff `why` is a reason -/
def verdict (cfg : Cfg) (res : List Nat) (c : Conn) (cur : List Conn) : Option (Option Reason) :=
  if c.closed then some none
  else if c.expired then some (some .expired)
  else if c.idle && !(isReserved res c) && surplusCount cfg cur > cfg.maxKeepalive then
    some (some (.surplus (cur.filter (·.idle)).length))
  else if cfg.reclaimAbandoned && !(isReserved res c) && !c.idle then some (some .abandoned)
  else none

theorem cleanup_cons (cfg : Cfg) (res : List Nat) (c : Conn) (rest cur : List Conn) (cl : List (Conn × Reason)) :
    cleanup cfg res (c :: rest) cur cl =
      match verdict cfg res c cur with
      | none => cleanup cfg res rest cur cl
      | some why => cleanup cfg res rest (cur.erase c) (cl ++ (why.map (c, ·)).toList) := by
  unfold verdict
  rw [cleanup]
  grind

theorem verdict_keep {cfg : Cfg} {res : List Nat} {c : Conn} {cur : List Conn} (h : verdict cfg res c cur = none) :
    c.closed = false ∧ c.expired = false ∧
    (c.idle = true → isReserved res c = false → surplusCount cfg cur ≤ cfg.maxKeepalive) ∧
    (cfg.reclaimAbandoned = true → c.idle = true ∨ isReserved res c = true) := by
  unfold verdict at h
  grind

theorem verdict_close {cfg : Cfg} {res : List Nat} {c : Conn} {cur : List Conn} {r : Reason}
    (h : verdict cfg res c cur = some (some r)) :
    (r = .expired ∧ c.expired = true) ∨
    (r = .surplus (cur.filter (·.idle)).length ∧ c.idle = true ∧ isReserved res c = false ∧
      surplusCount cfg cur > cfg.maxKeepalive) ∨
    (r = .abandoned ∧ cfg.reclaimAbandoned = true ∧ c.idle = false ∧ isReserved res c = false) := by
  unfold verdict at h
  grind

theorem cleanup_sublist (cfg : Cfg) (res : List Nat) (snap cur : List Conn) (cl : List (Conn × Reason)) :
    (cleanup cfg res snap cur cl).1.Sublist cur := by
  induction snap generalizing cur cl with
  | nil => exact List.Sublist.refl _
  | cons c rest ih =>
    rw [cleanup_cons]
    split
    · exact ih _ _
    · exact (ih _ _).trans List.erase_sublist

theorem cleanup_kept (cfg : Cfg) (res : List Nat) (snap cur : List Conn) (cl : List (Conn × Reason)) (hnd : cur.Nodup)
    {x : Conn} (hx : x ∈ (cleanup cfg res snap cur cl).1) (hs : x ∈ snap) :
    ∃ mid, (cleanup cfg res snap cur cl).1.Sublist mid ∧ mid.Sublist cur ∧ verdict cfg res x mid = none := by
  induction snap generalizing cur cl with
  | nil => cases hs
  | cons c rest ih =>
    rw [cleanup_cons] at hx ⊢
    cases hv : verdict cfg res c cur <;> simp only [hv] at hx ⊢
    · rcases List.mem_cons.mp hs with rfl | hs
      · exact ⟨cur, cleanup_sublist .., List.Sublist.refl _, hv⟩
      · exact ih cur cl hnd hx hs
    · have hne : x ≠ c := fun e => hnd.not_mem_erase (e ▸ (cleanup_sublist ..).mem hx)
      obtain ⟨mid, h1, h2, h3⟩ := ih _ _ (hnd.erase c) hx ((List.mem_cons.mp hs).resolve_left hne)
      exact ⟨mid, h1, h2.trans List.erase_sublist, h3⟩

theorem cleanup_closed (cfg : Cfg) (res : List Nat) (snap cur : List Conn) (cl : List (Conn × Reason))
    {e : Conn × Reason} (he : e ∈ (cleanup cfg res snap cur cl).2) :
    e ∈ cl ∨ (e.1 ∈ snap ∧ ∃ mid, (cleanup cfg res snap cur cl).1.Sublist (mid.erase e.1) ∧ mid.Sublist cur ∧
      verdict cfg res e.1 mid = some (some e.2)) := by
  induction snap generalizing cur cl with
  | nil => exact Or.inl he
  | cons c rest ih =>
    rw [cleanup_cons] at he ⊢
    cases hv : verdict cfg res c cur with simp only [hv] at he ⊢
    | none => exact (ih _ _ he).imp_right fun ⟨h0, h⟩ => ⟨List.mem_cons_of_mem _ h0, h⟩
    | some why =>
      rcases ih _ _ he with h | ⟨h0, mid, h1, h2, h3⟩
      · rcases List.mem_append.mp h with h | h
        · exact Or.inl h
        · cases why with
          | none => cases h
          | some r =>
            obtain rfl : e = (c, r) := by simpa using h
            exact Or.inr ⟨List.mem_cons_self, cur, cleanup_sublist .., List.Sublist.refl _, hv⟩
      · exact Or.inr ⟨List.mem_cons_of_mem _ h0, mid, h1, h2.trans List.erase_sublist, h3⟩

end Httpcore.Pool

namespace Httpcore.C07
open Httpcore.Pool

/-- the idle connections that are not spoken for (no request has been handed them) -/
def freeIdle (s : State) : List Conn := s.conns.filter (fun c => c.idle && !(isReserved s.reserved c))

def availFor (s : State) (origin : Nat) : List Conn :=
  s.conns.filter (fun c => c.origin == origin && c.available)

end Httpcore.C07

namespace Httpcore.Pool
open Httpcore.C07 (freeIdle availFor)

/-! ## the assignment loop -/

theorem mem_availFor {s : State} {o : Nat} {c : Conn} :
    c ∈ availFor s o ↔ c ∈ s.conns ∧ c.origin = o ∧ c.available = true := by
  simp [availFor]

theorem mem_freeIdle {s : State} {i : Conn} :
    i ∈ freeIdle s ↔ i ∈ s.conns ∧ i.idle = true ∧ isReserved s.reserved i = false := by
  simp [freeIdle]

/-- the state and request after a connection has been created for `r`, the pool's list and closing list having become `conns`
and `closing` -/
def created (cfg : Cfg) (s : State) (r : Req) (conns : List Conn) (closing : List (Conn × Reason)) : State × Req :=
  ({ s with conns := conns ++ [fresh cfg s.nextId r.origin], closing := closing, nextId := s.nextId + 1 },
   { r with conn := some s.nextId })

theorem assignOne_cases (cfg : Cfg) (s : State) (r : Req) :
    (∃ c, (availFor s r.origin).head? = some c ∧
      assignOne cfg s r = ({ s with reserved := if cfg.protectAssigned then c.id :: s.reserved else s.reserved },
                           { r with conn := some c.id })) ∨
    (availFor s r.origin = [] ∧ s.conns.length < cfg.maxConn ∧ assignOne cfg s r = created cfg s r s.conns s.closing) ∨
    (availFor s r.origin = [] ∧ ¬ s.conns.length < cfg.maxConn ∧ ∃ i, (freeIdle s).head? = some i ∧
      assignOne cfg s r = created cfg s r (s.conns.erase i) (s.closing ++ [(i, .room)])) ∨
    (availFor s r.origin = [] ∧ ¬ s.conns.length < cfg.maxConn ∧ freeIdle s = [] ∧ assignOne cfg s r = (s, r)) := by
  fun_cases assignOne cfg s r
  case case1 c _ h => exact .inl ⟨c, congrArg List.head? h, rfl⟩
  case case2 h hroom _ => exact .inr (.inl ⟨h, hroom, rfl⟩)
  case case3 h hroom i _ hi _ => exact .inr (.inr (.inl ⟨h, hroom, i, congrArg List.head? hi, rfl⟩))
  case case4 h hroom hi => exact .inr (.inr (.inr ⟨h, hroom, hi, rfl⟩))

/-- `fin`: the loop writes `s.reqs` only at its end, so an invariant must not look at it before -/
theorem assignAll_induct (cfg : Cfg) {I : State → List Req → List Req → Prop}
    (skip : ∀ s r rest done, r.conn ≠ none → I s done (r :: rest) → I s (done ++ [r]) rest)
    (step : ∀ s r rest done, r.conn = none → I s done (r :: rest) →
      I (assignOne cfg s r).1 (done ++ [(assignOne cfg s r).2]) rest)
    (fin : ∀ s done, I s done [] → I { s with reqs := done } done [])
    (s : State) (rs done : List Req) (h : I s done rs) :
    I (assignAll cfg s rs done) (assignAll cfg s rs done).reqs [] := by
  induction rs generalizing s done with
  | nil => exact fin s done h
  | cons r rest ih =>
    simp only [assignAll]
    split
    · rename_i hc
      exact ih _ _ (skip s r rest done (by simp [hc]) h)
    · rename_i hc
      exact ih _ _ (step s r rest done hc h)

end Httpcore.Pool
