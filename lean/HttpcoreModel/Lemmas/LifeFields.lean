import HttpcoreModel.ConnLife
/-!
What the generated life-cycle functions do, as one equation each: the record they return, with the source's Boolean tests read as
propositions.  The theorems of `Props/Life.lean` rewrite with these and never unfold `Gen.h1*` / `Gen.h2*` themselves, so a change
of the source's gate, `_response_closed` or `aclose` shows here first.
-/
namespace Httpcore.LifeFields
open Httpcore Httpcore.Life Httpcore.ConnLife

/-! HTTP/2 -/

theorem h2Aclose_eq (c : H2) :
    Gen.h2Aclose c = { c with h2Closed := true, st := .closed, sockCloses := c.sockCloses + 1 } := rfl

theorem h2Gate_eq (c : H2) : Gen.h2Gate c =
    if c.st = .active ∨ c.st = .idle then
      { c with count := c.count + 1, expireAt := none, st := .active, starting := c.starting + 1 }
    else { c with raised := true } := by
  simp [Gen.h2Gate]

theorem h2AfterClose_eq (c : H2) (now : Nat) : Gen.h2AfterClose c now =
    if c.terminated ∧ c.streams = 0 then Gen.h2Aclose c
    else if c.st = .active ∧ c.streams = 0 ∧ c.starting = 0 then
      let c' := { c with st := .idle, expireAt := if c.ka.isSome then some (now + c.ka.getD 0) else c.expireAt }
      if c.usedAll then Gen.h2Aclose c' else c'
    else c := by
  cases h : c.ka.isSome <;> simp [Gen.h2AfterClose, and_assoc, h]

theorem gate_ka (c : H2) : (Gen.h2Gate c).ka = c.ka := by rw [h2Gate_eq]; split <;> rfl
theorem acl_exp (c : H2) : (Gen.h2Aclose c).expireAt = c.expireAt := rfl
theorem acl_streams (c : H2) : (Gen.h2Aclose c).streams = c.streams := rfl
theorem acl_ka (c : H2) : (Gen.h2Aclose c).ka = c.ka := rfl

/-! HTTP/1.1 -/

theorem h1Aclose_eq (c : H1) : Gen.h1Aclose c = { c with st := .closed, sockCloses := c.sockCloses + 1 } := rfl

theorem h1Gate_eq (c : H1) : Gen.h1Gate c =
    if c.st = .new ∨ c.st = .idle then { c with count := c.count + 1, st := .active, expireAt := none }
    else { c with raised := true } := by
  simp [Gen.h1Gate]

theorem h1ResponseClosed_eq (c : H1) (now : Nat) : Gen.h1ResponseClosed c now =
    if c.ourDone ∧ c.theirDone then
      { c with st := .idle, cycles := c.cycles + 1, ourDone := false, theirDone := false,
               expireAt := if c.ka.isSome then some (now + c.ka.getD 0) else c.expireAt }
    else Gen.h1Aclose c := by
  cases h : c.ka.isSome <;> simp [Gen.h1ResponseClosed, h]

theorem g1_ka (c : H1) : (Gen.h1Gate c).ka = c.ka := by rw [h1Gate_eq]; split <;> rfl
theorem acl1_ka (c : H1) : (Gen.h1Aclose c).ka = c.ka := rfl
theorem acl1_our (c : H1) : (Gen.h1Aclose c).ourDone = c.ourDone := rfl
theorem acl1_their (c : H1) : (Gen.h1Aclose c).theirDone = c.theirDone := rfl

end Httpcore.LifeFields
