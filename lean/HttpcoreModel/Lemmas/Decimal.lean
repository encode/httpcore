import HttpcoreModel.Url
namespace Httpcore.Url
open Httpcore

theorem digitsToNat_map (l : List Char) :
    digitsToNat (l.map Char.toNat) = Nat.ofDigitChars 10 l 0 := by
  unfold digitsToNat Nat.ofDigitChars
  rw [List.foldl_map]
  congr 1
  funext acc c
  simp [Nat.mul_comm]

theorem digitsToNat_decimal (n : Nat) : digitsToNat (decimal n) = n := by
  simp [decimal, digitsToNat_map]

theorem decimal_ne_nil (n : Nat) : decimal n ≠ [] := by
  simp [decimal, Nat.toDigits_ne_nil]

theorem decimal_all_digit (n : Nat) : (decimal n).all isDigit = true := by
  simp only [decimal, List.all_map, List.all_eq_true]
  intro c hc
  have := Nat.isDigit_of_mem_toDigits (b := 10) (by decide) (by decide) hc
  simpa [Char.isDigit, isDigit, Char.le_def, UInt32.le_iff_toNat_le] using this

end Httpcore.Url
