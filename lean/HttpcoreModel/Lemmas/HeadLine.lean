import HttpcoreModel.H1Parse
import HttpcoreModel.Lemmas.ListSplit
/-!
Lines of a message head, for both directions (request head written by httpcore, response head written by a server):
h11's character classes as arithmetic, field values, `name ":" OWS value OWS` parses back to `(name, value)`,
and a line followed by CRLF is cut off where it ends.
-/
namespace Httpcore.H1
open Httpcore Httpcore.H1W

/-! ### character classes as arithmetic: after `simp only` with these the rest is `omega` -/

theorem isOWS_iff (c : Nat) : isOWS c = true ↔ c = 32 ∨ c = 9 := by simp [isOWS]

theorem isOWS_eq_false_iff (c : Nat) : isOWS c = false ↔ c ≠ 32 ∧ c ≠ 9 := by simp [isOWS]

theorem isFieldVchar_iff (c : Nat) : isFieldVchar c = true ↔ c ≠ 0 ∧ c ≠ 32 ∧ (c < 9 ∨ 13 < c) := by
  simp [isFieldVchar, isReSpace]

theorem isDigit_iff (c : Nat) : isDigit c = true ↔ 48 ≤ c ∧ c ≤ 57 := by simp [isDigit]

theorem isVchar_iff (c : Nat) : isVchar c = true ↔ 33 ≤ c ∧ c ≤ 126 := by simp [isVchar]

theorem isTokenChar_range {c : Nat} (h : isTokenChar c = true) : 33 ≤ c ∧ c ≤ 126 ∧ c ≠ 58 := by
  simp only [isTokenChar, Bool.or_eq_true, Bool.and_eq_true, decide_eq_true_eq, beq_iff_eq] at h
  omega

abbrev InLine (c : Nat) : Prop := c ≠ 13 ∧ c ≠ 10

theorem token_inLine {n : Bytes} (h : n.all isTokenChar = true) : ∀ x ∈ n, 33 ≤ x ∧ x ≤ 126 ∧ x ≠ 58 :=
  fun x hx => isTokenChar_range (List.all_eq_true.mp h x hx)

theorem text_inLine {v : Bytes} (h : v.all (fun c => isOWS c || isFieldVchar c) = true) : ∀ x ∈ v, InLine x := by
  intro x hx
  have := List.all_eq_true.mp h x hx
  simp only [Bool.or_eq_true, isOWS_iff, isFieldVchar_iff] at this
  unfold InLine; omega

/-- `validFieldValue` without its case split: only field-vchars and white space, and none of the latter at either end -/
theorem validFieldValue_iff (v : Bytes) : validFieldValue v = true ↔
    v.all (fun c => isOWS c || isFieldVchar c) = true ∧
    (∀ c ∈ v.head?, isOWS c = false) ∧ (∀ c ∈ v.getLast?, isOWS c = false) := by
  have hvo : ∀ c, isFieldVchar c = true → isOWS c = false := by
    intro c; simp only [isFieldVchar_iff, isOWS_eq_false_iff]; omega
  have hov : ∀ c, (isOWS c || isFieldVchar c) = true → isOWS c = false → isFieldVchar c = true := by
    intro c; simp only [Bool.or_eq_true, isFieldVchar_iff, isOWS_eq_false_iff, isOWS_iff]; omega
  cases v with
  | nil => simp [validFieldValue]
  | cons c cs =>
    have hlast : (c :: cs).getLast? = some ((c :: cs).getLast (by simp)) := List.getLast?_eq_some_getLast _
    simp only [validFieldValue, hlast, Bool.and_eq_true, List.head?_cons, Option.mem_def, Option.some.injEq,
      forall_eq']
    have hmem : (c :: cs).getLast (by simp) ∈ c :: cs := List.getLast_mem _
    have hperm : (c :: cs).all (fun x => isFieldVchar x || isOWS x) = (c :: cs).all (fun c => isOWS c || isFieldVchar c) := by
      congr 1; funext x; exact Bool.or_comm ..
    rw [hperm]
    constructor
    · rintro ⟨⟨h1, h2⟩, h3⟩; exact ⟨h3, hvo _ h1, hvo _ h2⟩
    · rintro ⟨h3, h1, h2⟩
      exact ⟨⟨hov _ (List.all_eq_true.mp h3 c (by simp)) h1, hov _ (List.all_eq_true.mp h3 _ hmem) h2⟩, h3⟩

/-- digits, a token, `chunked` -/
theorem validFieldValue_of_vchars (v : Bytes) (h : ∀ x ∈ v, isFieldVchar x = true) : validFieldValue v = true := by
  have hvo : ∀ x ∈ v, isOWS x = false := by
    intro x hx; have := h x hx; simp only [isFieldVchar_iff, isOWS_eq_false_iff] at *; omega
  refine (validFieldValue_iff v).mpr ⟨?_, fun c hc => hvo c (List.mem_of_mem_head? hc), fun c hc => hvo c (List.mem_of_getLast? hc)⟩
  exact List.all_eq_true.mpr fun x hx => by simp [h x hx]

/-! ### stripping: `stripOWS`, `stripSpace` and `H1W.strip` are this with their own class of white space -/

theorem dropWhile_pad (p : Nat → Bool) (pre w : Bytes) (hpre : ∀ x ∈ pre, p x = true) (hw : ∀ c ∈ w.head?, p c = false) :
    (pre ++ w).dropWhile p = w := by
  rw [List.dropWhile_append_of_pos hpre]
  cases w with
  | nil => rfl
  | cons c t => exact List.dropWhile_cons_of_neg (by simp [hw c rfl])

theorem strip_pad (p : Nat → Bool) (pre v post : Bytes) (hpre : ∀ x ∈ pre, p x = true) (hpost : ∀ x ∈ post, p x = true)
    (hh : ∀ c ∈ v.head?, p c = false) (hl : ∀ c ∈ v.getLast?, p c = false) :
    (((pre ++ v ++ post).dropWhile p).reverse.dropWhile p).reverse = v := by
  by_cases hv : v = []
  · subst hv
    have : ∀ x ∈ pre ++ [] ++ post, p x = true := by
      intro x hx; simp only [List.append_nil, List.mem_append] at hx; exact hx.elim (hpre x) (hpost x)
    rw [Url.dropWhile_all _ _ this]; rfl
  · have h1 : (pre ++ (v ++ post)).dropWhile p = v ++ post :=
      dropWhile_pad p pre _ hpre (by cases v with | nil => exact absurd rfl hv | cons c t => exact hh)
    have h2 : (post.reverse ++ v.reverse).dropWhile p = v.reverse :=
      dropWhile_pad p _ _ (fun x hx => hpost x (List.mem_reverse.mp hx)) (by rwa [List.head?_reverse])
    rw [List.append_assoc, h1, List.reverse_append, h2, List.reverse_reverse]

/-- h11's `header_field` on `name ":" OWS value OWS`, for every spelling of the optional white space.
`H1W.headerLine` and the canonical `C02H.headerLine` are the spelling `pre = " "`, `post = ""`. -/
theorem parseHeaderLine_pad (n pre v post : Bytes) (hn : n ≠ []) (hnt : n.all isTokenChar = true)
    (hv : validFieldValue v = true) (hpre : ∀ x ∈ pre, isOWS x = true) (hpost : ∀ x ∈ post, isOWS x = true) :
    parseHeaderLine (n ++ 58 :: (pre ++ v ++ post)) = some (n, v) := by
  obtain ⟨hall, hh, hl⟩ := (validFieldValue_iff v).mp hv
  have p1 : ∀ x ∈ n, (x != 58) = true := fun x hx => by simpa using (token_inLine hnt x hx).2.2
  have p0 : ((58 : Nat) != 58) = false := by simp
  have hall' : (pre ++ v ++ post).all (fun c => isOWS c || isFieldVchar c) = true := by
    simp only [List.all_append, Bool.and_eq_true, hall, and_true]
    exact ⟨List.all_eq_true.mpr fun x hx => by simp [hpre x hx], List.all_eq_true.mpr fun x hx => by simp [hpost x hx]⟩
  simp only [parseHeaderLine, Url.dropWhile_append_stop _ n 58 _ p1 p0, Url.takeWhile_append_stop _ n 58 _ p1 p0, hall', hnt,
    stripOWS, strip_pad isOWS pre v post hpre hpost hh hl]
  simp [hn]

theorem line_inLine {n v : Bytes} (hn : n.all isTokenChar = true) (hv : v.all (fun c => isOWS c || isFieldVchar c) = true) :
    ∀ x ∈ n ++ 58 :: v, InLine x := by
  intro x hx
  rcases List.mem_append.mp hx with h | h
  · have := token_inLine hn x h; unfold InLine; omega
  · rcases List.mem_cons.mp h with rfl | h
    · unfold InLine; omega
    · exact text_inLine hv x h

/-- whatever parses as a header line holds no CR or LF and starts with a visible character (so it is no continuation line) -/
theorem parseHeaderLine_inLine {l : Bytes} {h : Bytes × Bytes} (hp : parseHeaderLine l = some h) :
    (∀ x ∈ l, InLine x) ∧ ∃ c t, l = c :: t ∧ 33 ≤ c := by
  unfold parseHeaderLine at hp
  split at hp
  · cases hp
  · next d v hd =>
    dsimp only at hp
    split at hp
    · next hc =>
      simp only [Bool.and_eq_true, bne_iff_ne, ne_eq] at hc
      obtain ⟨⟨hne, htok⟩, hv⟩ := hc
      have hl : l.takeWhile (· != 58) ++ d :: v = l := by rw [← hd]; exact List.takeWhile_append_dropWhile
      have hd58 : d = 58 := by simpa [hd] using List.head?_dropWhile_not (· != 58) l
      refine ⟨hl ▸ hd58 ▸ line_inLine htok hv, ?_⟩
      · cases hn : l.takeWhile (· != 58) with
        | nil => exact absurd hn hne
        | cons c t => exact ⟨c, t ++ d :: v, by rw [← hl, hn]; rfl, (token_inLine htok c (by simp [hn])).1⟩
    · cases hp

theorem optAllM_map {α β γ} (f : β → Option γ) (g : α → β) (k : α → γ) (xs : List α) (h : ∀ x ∈ xs, f (g x) = some (k x)) :
    optAllM f (xs.map g) = some (xs.map k) := by
  induction xs with
  | nil => rfl
  | cons x xs ih => simp only [List.map_cons, optAllM, h x (by simp), ih fun y hy => h y (by simp [hy])]

theorem optAllM_mem {α β} (f : α → Option β) (xs : List α) (ys : List β) (h : optAllM f xs = some ys) :
    ∀ x ∈ xs, ∃ y, f x = some y := by
  induction xs generalizing ys with
  | nil => simp
  | cons x xs ih =>
    unfold optAllM at h
    split at h
    · next b bs hb hbs =>
      intro z hz
      rcases List.mem_cons.mp hz with rfl | hz
      · exact ⟨b, hb⟩
      · exact ih bs hbs z hz
    · cases h

theorem parseHeaderLine_canon (n v : Bytes) (hn : n ≠ []) (hnt : n.all isTokenChar = true) (hv : validFieldValue v = true) :
    parseHeaderLine (n ++ [58, 32] ++ v) = some (n, v) := by
  simpa using parseHeaderLine_pad n [32] v [] hn hnt hv (by simp [isOWS]) (by simp)

theorem canonLine_inLine (n v : Bytes) (hnt : n.all isTokenChar = true) (hv : validFieldValue v = true) :
    ∀ x ∈ n ++ [58, 32] ++ v, InLine x := by
  simpa using line_inLine hnt (v := 32 :: v) (by simpa [isOWS] using ((validFieldValue_iff v).mp hv).1)

theorem cutLine_append (l r : Bytes) (h : ∀ x ∈ l, x ≠ 13) : H1P.cutLine (l ++ 13 :: 10 :: r) = some (l, r) := by
  induction l with
  | nil => simp [H1P.cutLine]
  | cons b bs ih => simp [H1P.cutLine, h b (by simp), ih fun x hx => h x (by simp [hx])]

theorem cutLines_lines (ls : List Bytes) (rest : Bytes) (hne : ∀ l ∈ ls, l ≠ []) (hcr : ∀ l ∈ ls, ∀ x ∈ l, x ≠ 13) :
    H1P.cutLines ((ls.map (· ++ [13, 10])).flatten ++ 13 :: 10 :: rest) = some (ls, rest) := by
  -- fuel above the length of the buffer is enough: every line cut off shortens the buffer
  have aux : ∀ fuel, ((ls.map (· ++ [13, 10])).flatten ++ 13 :: 10 :: rest).length < fuel →
      H1P.cutLinesAux fuel ((ls.map (· ++ [13, 10])).flatten ++ 13 :: 10 :: rest) = some (ls, rest) := by
    induction ls with
    | nil => intro fuel hf; cases fuel with
      | zero => omega
      | succ f => simp [H1P.cutLinesAux, H1P.cutLine]
    | cons l ls ih =>
      intro fuel hf
      cases fuel with
      | zero => omega
      | succ f =>
        simp only [List.map_cons, List.flatten_cons, List.append_assoc, List.cons_append, List.nil_append, List.length_append,
          List.length_cons] at hf ⊢
        simp only [H1P.cutLinesAux, cutLine_append l _ (hcr l (by simp)), hne l (by simp), if_false, Option.map_some,
          ih (fun x hx => hne x (by simp [hx])) (fun x hx => hcr x (by simp [hx])) f
            (by simp only [List.length_append, List.length_cons]; omega)]
  exact aux _ (Nat.lt_succ_self _)

end Httpcore.H1
