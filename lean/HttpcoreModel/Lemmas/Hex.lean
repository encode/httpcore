import HttpcoreModel.H1Write
/-! `b"%x" % n` renders lower-case hex digits that read back as `n`. -/
namespace Httpcore.H1W
open Httpcore Httpcore.H1

theorem hexDigitLower_spec : ∀ d < 16, isHexDig (hexDigitLower d) = true ∧ hexVal1 (hexDigitLower d) = d := by
  decide

theorem hexRevAux_spec (fuel n : Nat) (h : n < fuel) :
    (∀ x ∈ hexRevAux fuel n, isHexDig x = true) ∧
    (hexRevAux fuel n).foldr (fun d acc => acc * 16 + hexVal1 d) 0 = n ∧ hexRevAux fuel n ≠ [] := by
  fun_induction hexRevAux fuel n with
  | case1 => omega
  | case2 f n h16 => simpa using hexDigitLower_spec n h16
  | case3 f n h16 ih =>
    obtain ⟨h1, h2, _⟩ := ih (by omega)
    obtain ⟨d1, d2⟩ := hexDigitLower_spec (n % 16) (Nat.mod_lt _ (by decide))
    refine ⟨List.forall_mem_cons.mpr ⟨d1, h1⟩, ?_, List.cons_ne_nil _ _⟩
    rw [List.foldr_cons, h2, d2]
    omega

theorem hexLower_spec (n : Nat) :
    (∀ x ∈ hexLower n, isHexDig x = true) ∧ hexValue (hexLower n) = n ∧ hexLower n ≠ [] := by
  simpa [hexLower, hexValue, List.foldl_reverse] using hexRevAux_spec (n + 1) n (Nat.lt_succ_self n)

end Httpcore.H1W
