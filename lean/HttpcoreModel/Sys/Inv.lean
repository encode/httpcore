import HttpcoreModel.Sys.Model
/-!
The inductive invariant of `Sys` and its preservation by every action.

`Inv` is an ownership discipline, and every clause of it speaks of one task, of one connection, or of one connection and one
task (`TaskOk`, `ConnOk`, `Link`).  A step rewrites at most one task and one connection, so preservation comes down to the
clauses about those two (`Inv.updBoth`, `Inv.updTask`, `Inv.updConn`); what is left per action is propositional reasoning
about two small records.
-/
namespace Httpcore.Sys

def heading : PC → Option Nat
  | .assigned c => some c
  | .connectTcp c => some c
  | .connectTls c => some c
  | .gate c => some c
  | .io c => some c
  | .closing c => some c
  | _ => none

def needsOwner : CStatus → Bool
  | .fresh => true
  | .connecting => true
  | .new => true
  | .active => true
  | _ => false

structure Inv (s : State) : Prop where
  orphan : ∀ t, (s.tasks t).counted = true → (s.tasks t).pc ≠ .notStarted ∧ (s.tasks t).pc ≠ .done
  live_counted : ∀ t, (s.tasks t).pc ≠ .notStarted → (s.tasks t).pc ≠ .done → (s.tasks t).counted = true
  need : ∀ c, needsOwner (s.conns c).status = true → (s.conns c).owner ≠ none
  pooled : ∀ c, needsOwner (s.conns c).status = true → (s.conns c).inPool = true
  st_fresh : ∀ c t, (s.conns c).status = .fresh → (s.conns c).owner = some t → (s.tasks t).pc = .assigned c
  st_conn : ∀ c t, (s.conns c).status = .connecting → (s.conns c).owner = some t →
    ((s.tasks t).pc = .connectTcp c ∧ (s.conns c).streamOpen = false) ∨ (s.tasks t).pc = .connectTls c
  st_new : ∀ c t, (s.conns c).status = .new → (s.conns c).owner = some t → (s.tasks t).pc = .gate c
  st_active : ∀ c t, (s.conns c).status = .active → (s.conns c).owner = some t →
    (s.tasks t).pc = .io c ∨ (s.tasks t).pc = .closing c
  st_closed : ∀ c t, (s.conns c).status = .closed → (s.conns c).owner = some t → (s.tasks t).pc = .closing c
  st_idle : ∀ c, (s.conns c).status = .idle → (s.conns c).owner = none ∧ (s.conns c).inPool = true
  st_failed : ∀ c, (s.conns c).status = .failed → (s.conns c).owner = none ∧ (s.conns c).streamOpen = false
  st_absent : ∀ c, (s.conns c).status = .absent → (s.conns c).owner = none ∧ (s.conns c).inPool = false
  fresh_nostream : ∀ c, (s.conns c).status = .fresh → (s.conns c).streamOpen = false
  /-- C06: every open stream belongs to a pooled connection or to one that a live caller is closing -/
  stream_owned : ∀ c, (s.conns c).streamOpen = true →
    ((s.conns c).inPool = true ∧ ((s.conns c).status = .connecting ∨ (s.conns c).status = .new ∨
        (s.conns c).status = .active ∨ (s.conns c).status = .idle)) ∨
    ((s.conns c).status = .closed ∧ (s.conns c).owner ≠ none)
  /-- a caller sits in `io`/`closing` on a connection only as its owner, or the connection is closed -/
  closing_owner : ∀ c t, (s.tasks t).pc = .closing c → (s.conns c).owner = some t ∧
    ((s.conns c).status = .active ∨ (s.conns c).status = .closed)
  io_owner : ∀ c t, (s.tasks t).pc = .io c → (s.conns c).owner = some t ∧ (s.conns c).status = .active
  tcp_owner : ∀ c t, (s.tasks t).pc = .connectTcp c → (s.conns c).owner = some t ∧ (s.conns c).status = .connecting
  tls_owner : ∀ c t, (s.tasks t).pc = .connectTls c → (s.conns c).owner = some t ∧ (s.conns c).status = .connecting

theorem inv_init : Inv init := by
  constructor <;> intros <;> simp_all [init, needsOwner]

/-- an action is admissible for the proved part: no cancellation / pool time-out is delivered in the
window between a pass assigning a connection and the caller starting on it (finding F-C05-f / F-C05-e) -/
def Admissible : Action → Prop
  | .cancelAssigned _ => False
  | _ => True


@[simp] theorem setPc_conns (s : State) (t : Nat) (pc : PC) : (setPc s t pc).conns = s.conns := rfl
@[simp] theorem setPc_tasks (s : State) (t : Nat) (pc : PC) :
    (setPc s t pc).tasks = upd s.tasks t { s.tasks t with pc := pc } := rfl
@[simp] theorem setConn_conns (s : State) (c : Nat) (v : Conn) : (setConn s c v).conns = upd s.conns c v := rfl
@[simp] theorem setConn_tasks (s : State) (c : Nat) (v : Conn) : (setConn s c v).tasks = s.tasks := rfl

/-! ### the invariant, clause by clause -/

def TaskOk (k : Task) : Prop :=
  (k.counted = true → k.pc ≠ .notStarted ∧ k.pc ≠ .done) ∧ (k.pc ≠ .notStarted → k.pc ≠ .done → k.counted = true)

def ConnOk (v : Conn) : Prop :=
  (needsOwner v.status = true → v.owner ≠ none) ∧
  (needsOwner v.status = true → v.inPool = true) ∧
  (v.status = .idle → v.owner = none ∧ v.inPool = true) ∧
  (v.status = .failed → v.owner = none ∧ v.streamOpen = false) ∧
  (v.status = .absent → v.owner = none ∧ v.inPool = false) ∧
  (v.status = .fresh → v.streamOpen = false) ∧
  (v.streamOpen = true →
    (v.inPool = true ∧ (v.status = .connecting ∨ v.status = .new ∨ v.status = .active ∨ v.status = .idle)) ∨
    (v.status = .closed ∧ v.owner ≠ none))

/-- connection `c` in state `v` and task `t` in state `k` agree on whether `t` owns `c` and on how far it has got -/
def Link (c t : Nat) (v : Conn) (k : Task) : Prop :=
  (v.status = .fresh → v.owner = some t → k.pc = .assigned c) ∧
  (v.status = .connecting → v.owner = some t → (k.pc = .connectTcp c ∧ v.streamOpen = false) ∨ k.pc = .connectTls c) ∧
  (v.status = .new → v.owner = some t → k.pc = .gate c) ∧
  (v.status = .active → v.owner = some t → k.pc = .io c ∨ k.pc = .closing c) ∧
  (v.status = .closed → v.owner = some t → k.pc = .closing c) ∧
  (k.pc = .closing c → v.owner = some t ∧ (v.status = .active ∨ v.status = .closed)) ∧
  (k.pc = .io c → v.owner = some t ∧ v.status = .active) ∧
  (k.pc = .connectTcp c → v.owner = some t ∧ v.status = .connecting) ∧
  (k.pc = .connectTls c → v.owner = some t ∧ v.status = .connecting)

theorem inv_iff (s : State) :
    Inv s ↔ (∀ t, TaskOk (s.tasks t)) ∧ (∀ c, ConnOk (s.conns c)) ∧ ∀ c t, Link c t (s.conns c) (s.tasks t) :=
  ⟨fun h => ⟨fun t => ⟨h.orphan t, h.live_counted t⟩,
      fun c => ⟨h.need c, h.pooled c, h.st_idle c, h.st_failed c, h.st_absent c, h.fresh_nostream c, h.stream_owned c⟩,
      fun c t => ⟨h.st_fresh c t, h.st_conn c t, h.st_new c t, h.st_active c t, h.st_closed c t, h.closing_owner c t,
        h.io_owner c t, h.tcp_owner c t, h.tls_owner c t⟩⟩,
   fun ⟨ht, hc, hl⟩ =>
    { orphan := fun t => (ht t).1, live_counted := fun t => (ht t).2,
      need := fun c => (hc c).1, pooled := fun c => (hc c).2.1, st_idle := fun c => (hc c).2.2.1,
      st_failed := fun c => (hc c).2.2.2.1, st_absent := fun c => (hc c).2.2.2.2.1,
      fresh_nostream := fun c => (hc c).2.2.2.2.2.1, stream_owned := fun c => (hc c).2.2.2.2.2.2,
      st_fresh := fun c t => (hl c t).1, st_conn := fun c t => (hl c t).2.1, st_new := fun c t => (hl c t).2.2.1,
      st_active := fun c t => (hl c t).2.2.2.1, st_closed := fun c t => (hl c t).2.2.2.2.1,
      closing_owner := fun c t => (hl c t).2.2.2.2.2.1, io_owner := fun c t => (hl c t).2.2.2.2.2.2.1,
      tcp_owner := fun c t => (hl c t).2.2.2.2.2.2.2.1, tls_owner := fun c t => (hl c t).2.2.2.2.2.2.2.2 }⟩

theorem Inv.taskOk {s : State} (h : Inv s) (t : Nat) : TaskOk (s.tasks t) := ((inv_iff s).1 h).1 t
theorem Inv.connOk {s : State} (h : Inv s) (c : Nat) : ConnOk (s.conns c) := ((inv_iff s).1 h).2.1 c
theorem Inv.link {s : State} (h : Inv s) (c t : Nat) : Link c t (s.conns c) (s.tasks t) := ((inv_iff s).1 h).2.2 c t

/-- a connection that needs an owner has one, and that caller is on its way to it or inside it -/
theorem Inv.owner_heading {s : State} (h : Inv s) {c : Nat} (hn : needsOwner (s.conns c).status = true) :
    ∃ t, (s.conns c).owner = some t ∧ heading (s.tasks t).pc = some c := by
  obtain ⟨t, ht⟩ := Option.ne_none_iff_exists'.mp (h.need c hn)
  refine ⟨t, ht, ?_⟩
  cases hst : (s.conns c).status <;> simp only [hst, needsOwner, reduceCtorEq] at hn
  · rw [h.st_fresh c t hst ht]; rfl
  · rcases h.st_conn c t hst ht with ⟨e, _⟩ | e <;> rw [e] <;> rfl
  · rw [h.st_new c t hst ht]; rfl
  · rcases h.st_active c t hst ht with e | e <;> rw [e] <;> rfl

/-! ### frame lemmas: what has to be shown when one task and / or one connection is rewritten

Each obligation carries the old facts about the rewritten task and connection as premises, so that it is a statement about
two records and can be proved without the invariant (and its quantifiers) in sight. -/

theorem forall_upd {α} {P : Nat → α → Prop} {f : Nat → α} {i : Nat} {v : α} (hi : P i v) (hj : ∀ j, j ≠ i → P j (f j))
    (j : Nat) : P j (upd f i v j) := by
  unfold upd; split
  · next e => exact e ▸ hi
  · next e => exact hj j e

/-- connection `c` becomes `v` and task `t` becomes `k`: to be shown are the clauses of `k`, of `v`, of the pair, of `v` with
every other task and of `k` with every other connection -/
theorem Inv.updBoth {s : State} (h : Inv s) {c t : Nat} {v : Conn} {k : Task}
    (H : TaskOk (s.tasks t) → ConnOk (s.conns c) → Link c t (s.conns c) (s.tasks t) →
      TaskOk k ∧ ConnOk v ∧ Link c t v k ∧ (∀ t' k', t' ≠ t → Link c t' (s.conns c) k' → Link c t' v k') ∧
        ∀ c' v', c' ≠ c → Link c' t v' (s.tasks t) → Link c' t v' k) :
    Inv { conns := upd s.conns c v, tasks := upd s.tasks t k } :=
  have ⟨hk, hv, hl, ht, hc⟩ := H (h.taskOk t) (h.connOk c) (h.link c t)
  (inv_iff _).2 ⟨forall_upd (P := fun _ => TaskOk) hk fun t' _ => h.taskOk t',
    forall_upd (P := fun _ => ConnOk) hv fun c' _ => h.connOk c',
    forall_upd (P := fun c' v' => ∀ t', Link c' t' v' (upd s.tasks t k t'))
      (forall_upd (P := fun t' k' => Link c t' v k') hl fun t' e => ht t' _ e (h.link c t'))
      fun c' e => forall_upd (P := fun t' k' => Link c' t' (s.conns c') k') (hc c' _ e (h.link c' t)) fun t' _ => h.link c' t'⟩

theorem Inv.updTask {s : State} (h : Inv s) {t : Nat} {k : Task}
    (H : TaskOk (s.tasks t) → TaskOk k ∧ ∀ c, ConnOk (s.conns c) → Link c t (s.conns c) (s.tasks t) → Link c t (s.conns c) k) :
    Inv { s with tasks := upd s.tasks t k } :=
  have ⟨hk, hl⟩ := H (h.taskOk t)
  (inv_iff _).2 ⟨forall_upd (P := fun _ => TaskOk) hk fun t' _ => h.taskOk t', h.connOk,
    fun c => forall_upd (P := fun t' k' => Link c t' (s.conns c) k') (hl c (h.connOk c) (h.link c t)) fun t' _ => h.link c t'⟩

theorem Inv.updConn {s : State} (h : Inv s) {c : Nat} {v : Conn}
    (H : ConnOk (s.conns c) → ConnOk v ∧ ∀ t k, Link c t (s.conns c) k → Link c t v k) :
    Inv { s with conns := upd s.conns c v } :=
  have ⟨hv, hl⟩ := H (h.connOk c)
  (inv_iff _).2 ⟨h.taskOk, forall_upd (P := fun _ => ConnOk) hv fun c' _ => h.connOk c',
    forall_upd (P := fun c' v' => ∀ t, Link c' t v' (s.tasks t)) (fun t => hl t _ (h.link c t)) fun c' _ => h.link c'⟩

/-! ### every action preserves the invariant -/

attribute [local grind] TaskOk ConnOk Link needsOwner

theorem inv_step (fx : Fixes) (hn : fx.closeNew = true) (ht : fx.closeOnTlsCancel = true)
    (s : State) (h : Inv s) (a : Action) (ha : Admissible a) : Inv (step fx s a) := by
  cases a with
  | cancelAssigned => exact ha.elim
  | arrive | assignIdle | waitCancel | finish =>
    simp only [step, setPc]; split
    · exact h.updTask (by grind)
    · exact h
  | evict | dropClosed | poolClose =>
    simp only [step, setConn]; split
    · exact h.updConn (by grind)
    · exact h
  | assignNew =>
    simp only [step, setPc, setConn]; split
    · exact h.updBoth (by grind)
    · exact h
  | tcp | tls | closed =>
    simp only [step, setPc, setConn, ht, ↓reduceIte]; split
    · split <;> exact h.updBoth (by grind)
    · exact h
  | start =>
    simp only [step, setPc, setConn]; split
    · split
      · exact h.updBoth (by grind)
      · split
        · exact h
        · exact h.updTask (by grind)
    · exact h
  | gate =>
    simp only [step, setPc, setConn, hn, ↓reduceIte]; split
    · split <;> split
      · exact h.updBoth (by grind)
      · exact h.updTask (by grind)
      · exact h.updBoth (by grind)
      · exact h.updTask (by grind)
    · exact h
  | io =>
    simp only [step, setPc, setConn]; split
    · split
      · exact h.updTask (by grind)
      · exact h.updBoth (by grind)
    · exact h

end Httpcore.Sys
