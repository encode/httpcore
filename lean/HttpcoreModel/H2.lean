import HttpcoreModel.Generated
/-!
Model of the HTTP/2 connection's bookkeeping (`httpcore/_async/http2.py`) at h2's event / call
interface: the stream-slot semaphore (set up and acquired in `handle_async_request`, adjusted on SETTINGS in
`_receive_remote_settings_change`, given back in `_response_closed`), the demultiplexing of events by stream id
(`_receive_events`), the send loop under flow control (`_send_stream_data`, `_wait_for_outgoing_flow`), the
receive-side credit of h2's `WindowManager` (`h2/windows.py`), and the GOAWAY rule (the `_connection_terminated`
test at the head of `_receive_events`).  Framing and HPACK are h2's (trusted).
-/
namespace Httpcore.H2

/-! ### stream slots -/

structure Slots where
  sem : Nat          -- permits available in `_max_streams_semaphore`
  held : Nat         -- streams that hold a permit (between the acquire loop and `_response_closed`)
  maxS : Nat         -- `self._max_streams`: the limit in force, min(server value, local cap)
  debt : Nat         -- `self._max_streams_debt`: permits (free or in use) beyond a lowered limit, withheld as they come free
  deriving DecidableEq, Repr

/-- the local MAX_CONCURRENT_STREAMS setting (regenerated from `_send_connection_init`) -/
def localCap : Nat := Gen.h2LocalMaxStreams

/-- after `_send_connection_init`: a semaphore of `localCap` drained to the initial `_max_streams` -/
def Slots.init : Slots :=
  { sem := Gen.h2InitialMaxStreams, held := 0, maxS := Gen.h2InitialMaxStreams, debt := 0 }

/-- `_receive_remote_settings_change` for MAX_CONCURRENT_STREAMS = n. Raising the limit first cancels outstanding debt, then
releases permits. Lowering it never waits: the surplus becomes debt. -/
def Slots.settings (s : Slots) (n : Nat) : Slots :=
  let new := min n localCap
  if new = 0 ∨ new = s.maxS then s
  else if new > s.maxS then
    let up := new - s.maxS
    let pay := min s.debt up
    { s with sem := s.sem + (up - pay), debt := s.debt - pay, maxS := new }
  else { s with debt := s.debt + (s.maxS - new), maxS := new }

/-- the acquire loop of a request (`while True: acquire(); if debt > 0: debt -= 1; continue; break`): permits obtained while
debt is outstanding are withheld; the request gets a slot (`true`) if a permit is left after that, otherwise it waits -/
def Slots.openStream (s : Slots) : Slots × Bool :=
  let k := min s.sem s.debt
  let s1 : Slots := { s with sem := s.sem - k, debt := s.debt - k }
  if s1.sem > 0 then ({ s1 with sem := s1.sem - 1, held := s1.held + 1 }, true) else (s1, false)

/-- `_response_closed`: the permit pays off debt if there is any, otherwise it is released -/
def Slots.closeStream (s : Slots) : Slots :=
  if s.held = 0 then s
  else if s.debt > 0 then { s with held := s.held - 1, debt := s.debt - 1 }
  else { s with held := s.held - 1, sem := s.sem + 1 }

inductive SlotOp
  | settings (n : Nat)
  | open_
  | close
  deriving Repr

def Slots.step (s : Slots) : SlotOp → Slots
  | .settings n => s.settings n
  | .open_ => s.openStream.1
  | .close => s.closeStream

/-! #### the 1.0.7 behaviour (kept for the record of finding F-C12-a): lowering the limit *waits* for the permits -/

structure Slots107 where
  sem : Nat
  held : Nat
  maxS : Nat
  want : Nat         -- the value the reader is adjusting `_max_streams` towards (= maxS when idle)
  deriving DecidableEq, Repr

def Slots107.settings (s : Slots107) (n : Nat) : Slots107 :=
  let new := min n localCap
  if new = 0 ∨ s.want ≠ s.maxS then s
  else if new ≥ s.maxS then { s with sem := s.sem + (new - s.maxS), maxS := new, want := new }
  else
    let k := min s.sem (s.maxS - new)
    { s with sem := s.sem - k, maxS := s.maxS - k, want := new }

def Slots107.openStream (s : Slots107) : Option Slots107 :=
  if s.sem > 0 ∧ s.want = s.maxS then some { s with sem := s.sem - 1, held := s.held + 1 } else none

def Slots107.closeStream (s : Slots107) : Slots107 :=
  if s.held = 0 then s
  else if s.want < s.maxS then { s with held := s.held - 1, maxS := s.maxS - 1 }
  else { s with held := s.held - 1, sem := s.sem + 1 }

/-- the reader is blocked inside the semaphore, holding the read lock -/
def Slots107.readerBlocked (s : Slots107) : Bool := s.want < s.maxS

/-! ### demultiplexing -/

/-- events are appended to the queue of their own stream, if that stream is registered -/
def route {α} (registered : List Nat) (queues : Nat → List α) (sid : Nat) (ev : α) : Nat → List α :=
  fun s => if s = sid ∧ sid ∈ registered then queues s ++ [ev] else queues s

def routeAll {α} (registered : List Nat) (queues : Nat → List α) : List (Nat × α) → Nat → List α
  | [] => queues
  | (sid, ev) :: rest => routeAll registered (route registered queues sid ev) rest

theorem routeAll_eq {α} (reg : List Nat) (evs : List (Nat × α)) (q : Nat → List α) (s : Nat) :
    routeAll reg q evs s = q s ++ if s ∈ reg then (evs.filter (fun e => e.1 = s)).map (·.2) else [] := by
  induction evs generalizing q with
  | nil => simp [routeAll]
  | cons e evs ih =>
    rw [routeAll, ih, route, List.filter_cons]
    by_cases he : e.1 = s
    · subst he; by_cases hs : e.1 ∈ reg <;> simp [hs]
    · simp [he, Ne.symm he]

/-! ### sending under flow control -/

structure SendState where
  streamWin : Int      -- may be negative after SETTINGS_INITIAL_WINDOW_SIZE was lowered
  connWin : Int
  maxFrame : Nat
  deriving DecidableEq, Repr

/-- `min(local_flow_control_window(stream), max_outbound_frame_size)` -/
def flow (w : SendState) : Int := min (min w.streamWin w.connWin) w.maxFrame

inductive Update
  | streamWindow (n : Nat)                  -- WINDOW_UPDATE on the stream
  | connWindow (n : Nat)                    -- WINDOW_UPDATE on the connection
  | maxFrame (n : Nat)                      -- SETTINGS_MAX_FRAME_SIZE
  | initialWindowDelta (d : Int)            -- SETTINGS_INITIAL_WINDOW_SIZE changed by d (up or down)
  deriving Repr

def applyUpdate (w : SendState) : Update → SendState
  | .streamWindow n => { w with streamWin := w.streamWin + n }
  | .connWindow n => { w with connWin := w.connWin + n }
  | .maxFrame n => { w with maxFrame := n }
  | .initialWindowDelta d => { w with streamWin := w.streamWin + d }

def applyAll (w : SendState) (us : List Update) : SendState := us.foldl applyUpdate w

theorem flowWaits_false_pos {f : Int} (h : Gen.flowWaits f = false) : 0 < f := by
  simp [Gen.flowWaits] at h; omega

theorem chunk_bounds (w : SendState) (len : Nat) (h : Gen.flowWaits (flow w) = false) :
    (0 < len → 0 < min len (flow w).toNat) ∧ ((min len (flow w).toNat : Nat) : Int) ≤ w.streamWin ∧
    ((min len (flow w).toNat : Nat) : Int) ≤ w.connWin ∧ min len (flow w).toNat ≤ w.maxFrame := by
  have := flowWaits_false_pos h
  unfold flow at *
  omega

structure SendResult where
  emitted : List (List Nat × SendState)     -- each DATA payload with the windows it was sent against
  left : List Nat                           -- unsent when the schedule of reads ran out
  final : SendState

/-- `_send_stream_data` for one body chunk against a schedule of updates (one batch per read performed
while waiting in `_wait_for_outgoing_flow`) -/
def sendData : SendState → List (List Update) → List Nat → SendResult
  | w, _, [] => ⟨[], [], w⟩
  | w, sched, d :: ds =>
    if h : Gen.flowWaits (flow w) = true then
      match sched with
      | [] => ⟨[], d :: ds, w⟩                       -- still waiting when the schedule ends
      | us :: rest => sendData (applyAll w us) rest (d :: ds)
    else
      let n := min (d :: ds).length (flow w).toNat
      let r := sendData { w with streamWin := w.streamWin - n, connWin := w.connWin - n } sched ((d :: ds).drop n)
      ⟨((d :: ds).take n, w) :: r.emitted, r.left, r.final⟩
termination_by _ sched data => (data.length, sched.length)
decreasing_by
  · simp_wf
    right; simp
  · simp_wf
    left
    have h1 : 0 < flow w := flowWaits_false_pos (by simpa using h)
    have : 0 < (flow w).toNat := by omega
    omega

/-! ### receive-side credit (h2's WindowManager, driven by `acknowledge_received_data`) -/

structure Win where
  max : Nat          -- max_window_size
  cur : Nat          -- current_window_size: what the peer may still send
  pend : Nat         -- received, not yet acknowledged by httpcore (ghost)
  proc : Nat         -- _bytes_processed: acknowledged, not yet returned to the peer
  deriving DecidableEq, Repr

/-- `window_consumed(n)`: DATA of flow-controlled length n arrives (h2 rejects n > cur) -/
def Win.consume (w : Win) (n : Nat) : Option Win :=
  if n ≤ w.cur then some { w with cur := w.cur - n, pend := w.pend + n } else none

/-- `process_bytes(n)` (= `acknowledge_received_data(n)`): the new state and the WINDOW_UPDATE increment emitted -/
def Win.process (w : Win) (n : Nat) : Win × Nat :=
  let proc := w.proc + n
  let w' := { w with pend := w.pend - n, proc := proc }
  if proc = 0 then (w', 0)
  else
    let maxInc := w.max - w.cur
    if (w.cur = 0 ∧ proc > min 1024 (w.max / 4)) ∨ proc ≥ w.max / 2 then
      let inc := min proc maxInc
      ({ w' with cur := w.cur + inc, proc := 0 }, inc)
    else (w', 0)

/-! ### receiving a response (`_receive_response`, `_receive_response_body`, `_receive_stream_event`) -/

/-- the events h2 emits for one stream, in the order the shared reader queued them -/
inductive SEv
  | response (status : Nat) (headers : List (Bytes × Bytes))
  | data (d : Bytes)
  | ended
  | reset (code : Nat)
  deriving DecidableEq, Repr

inductive RecvOutcome
  | complete (status : Nat) (headers : List (Bytes × Bytes)) (body : Bytes)
  | failed              -- RemoteProtocolError (stream reset)
  | needMore            -- the queue ran dry: the caller reads on (and fails if the connection ends)
  deriving DecidableEq, Repr

/-- body phase: DATA is appended, END_STREAM completes, a reset fails; `resetFails = false` would be a reader that
treats RST_STREAM as the end of the body -/
def recvBody (resetFails : Bool) (status : Nat) (hs : List (Bytes × Bytes)) (acc : Bytes) : List SEv → RecvOutcome
  | [] => .needMore
  | .data d :: rest => recvBody resetFails status hs (acc ++ d) rest
  | .ended :: _ => .complete status hs acc
  | .reset _ :: _ => if resetFails then .failed else .complete status hs acc
  | .response _ _ :: rest => recvBody resetFails status hs acc rest

/-- head phase: everything before the response headers is skipped, except a reset -/
def recvHead (resetFails : Bool) : List SEv → RecvOutcome
  | [] => .needMore
  | .response st hs :: rest => recvBody resetFails st hs [] rest
  | .reset _ :: rest => if resetFails then .failed else recvHead resetFails rest
  | _ :: rest => recvHead resetFails rest

/-- what the code does (the two flags are regenerated from the source) -/
def recv (evs : List SEv) : RecvOutcome :=
  recvHead (Gen.h2ResetAlwaysFails && Gen.h2BodyEndsOnlyOnStreamEnded) evs

/-! ### GOAWAY and re-sending -/

inductive GoawayOutcome | connectionNotAvailable | remoteProtocolError
  deriving DecidableEq, Repr

/-- `_receive_events` once a GOAWAY with `last_stream_id = last` is stored (the test is regenerated from the source) -/
def goawayOutcome (sid last : Nat) : GoawayOutcome :=
  if Gen.goawayRetry sid last then .connectionNotAvailable else .remoteProtocolError

/-- one transmission attempt of a call as the pool sees it -/
inductive AttemptResult | response | notAvailable | failed
  deriving DecidableEq, Repr

structure Attempt where
  conn : Nat
  wrote : Bool          -- request bytes reached this connection
  refused : Bool        -- a GOAWAY named a last-stream-id below the request's stream
  result : AttemptResult
  deriving DecidableEq, Repr

/-- the pool's loop (`connection_pool.py:handle_async_request`): attempts are consumed until one does not end in
ConnectionNotAvailable -/
def attemptsUsed : List Attempt → List Attempt
  | [] => []
  | a :: rest => if a.result = .notAvailable then a :: attemptsUsed rest else [a]

end Httpcore.H2
