import HttpcoreModel.Lemmas.H1Stable
/-!
The reader as an `Extractor`, and what httpcore's loops make of its events:
`_receive_response_headers` (skip 1xx, stop at a final response or at 101), `_receive_response_body`
(yield data until EndOfMessage / PAUSED), `_receive_event`'s end-of-file rule, `trailing_data`.
-/
namespace Httpcore.H1
open Httpcore

/-- the response reader for a given request -/
def reader (ri : ReqInfo) : Extractor St Ev where
  extract := extract ri
  rank := rank
  progress := extract_progress ri
  stable := extract_stable ri

/-! ### what the caller observes -/

inductive Outcome
  | pending                 -- more data needed
  | complete
  | error (e : Err)
  deriving DecidableEq, Repr

structure Obs where
  head : Option Head := none      -- the response returned by `handle_request`
  bodyRev : List Nat := []        -- delivered body bytes, newest first
  outcome : Outcome := .pending
  deriving DecidableEq, Repr

def Obs.body (o : Obs) : Bytes := o.bodyRev.reverse

/-- fold one event into the observation (events after the outcome is decided cannot occur) -/
def absorb (o : Obs) : Ev → Obs
  | .info h => if h.status = 101 then { o with head := some h } else o
  | .response h => { o with head := some h }
  | .data b => { o with bodyRev := b :: o.bodyRev }
  | .skip => o
  | .eom => { o with outcome := .complete }
  | .fail e => match o.outcome with
    | .pending => { o with outcome := .error e }
    | _ => o

def observe (evs : List Ev) : Obs := evs.foldl absorb {}

theorem foldl_absorb_data (o : Obs) (body : Bytes) :
    (body.map Ev.data).foldl absorb o = { o with bodyRev := body.reverse ++ o.bodyRev } := by
  induction body generalizing o with
  | nil => simp
  | cons b t ih => simp [absorb, ih]

/-- end of file after the last segment (`_receive_event` + h11's `read_eof` / closed-buffer rules) -/
def atEof (o : Obs) (s : St) (_buf : Bytes) : Obs :=
  match o.outcome with
  | .pending =>
    match s with
    | .untilClose => { o with outcome := .complete }
    | .switched => { o with outcome := .complete }    -- body iteration sees PAUSED
    | .done => { o with outcome := .complete }
    | _ => { o with outcome := .error .protocol }
  | _ => o

/-- a switched connection completes at once (the body loop breaks on PAUSED) -/
def settle (o : Obs) (s : St) : Obs :=
  match o.outcome, s with
  | .pending, .switched => { o with outcome := .complete }
  | _, _ => o

/-- read a whole response that arrives in the given segments and is followed by end of file -/
def readAll (ri : ReqInfo) (segs : List Bytes) : Obs × St × Bytes :=
  let r := (reader ri).feedAll ([], .head, []) segs
  (atEof (observe r.1) r.2.1 r.2.2, r.2.1, r.2.2)

/-- the same without end of file (the connection stays open) -/
def readOpen (ri : ReqInfo) (segs : List Bytes) : Obs × St × Bytes :=
  let r := (reader ri).feedAll ([], .head, []) segs
  (settle (observe r.1) r.2.1, r.2.1, r.2.2)

/-- `AsyncHTTP11UpgradeStream.read(max_bytes)`: (bytes returned, remaining leading data); `none` =
the call is passed through to the network stream -/
def upgradeRead (leading : Bytes) (maxBytes : Nat) : Option (Bytes × Bytes) :=
  if leading.isEmpty then none else some (leading.take maxBytes, leading.drop maxBytes)

end Httpcore.H1

namespace Httpcore.H1
open Httpcore

/-- httpcore stops reading from the network as soon as the response head that switches protocols
has been received: feed segments until the state is `switched`; returns the position reached and the
segments that were *not* read (they stay in the network for the upgraded stream). -/
def feedUntilSwitched (ri : ReqInfo) (st : List Ev × St × Bytes) : List Bytes → (List Ev × St × Bytes) × List Bytes
  | [] => (st, [])
  | seg :: rest =>
    let st' := (reader ri).feed st seg
    if st'.2.1 = .switched then (st', rest) else feedUntilSwitched ri st' rest

/-- successive `read(max_bytes)` calls on the upgrade stream while leading data lasts:
(results, leading data left) -/
def upgradeReads : Bytes → List Nat → List Bytes × Bytes
  | l, [] => ([], l)
  | l, m :: ms =>
    match upgradeRead l m with
    | none => ([], l)
    | some (out, l') => let r := upgradeReads l' ms; (out :: r.1, r.2)

/-- the network as the handed-over stream sees it: the segments the head loop did not read; a
`read(max_bytes)` returns at most `max_bytes` of the first one and leaves the rest in place
(no segment left = nothing arrives: the empty result stands for "the read does not return") -/
def netRead (segs : List Bytes) (m : Nat) : Bytes × List Bytes :=
  match segs with
  | [] => ([], [])
  | s :: rest => if m < s.length then (s.take m, s.drop m :: rest) else (s, rest)

/-- one `read(max_bytes)` of the stream handed to the caller: leading data first (`upgradeRead`),
otherwise straight through to the network: (result, leading data left, network left) -/
def handoverRead (leading : Bytes) (segs : List Bytes) (m : Nat) : Bytes × Bytes × List Bytes :=
  match upgradeRead leading m with
  | some (out, l') => (out, l', segs)
  | none => let r := netRead segs m; (r.1, leading, r.2)

/-- successive reads of the handed-over stream, through the leading data and on into the live connection -/
def handoverReads : Bytes → List Bytes → List Nat → List Bytes × Bytes × List Bytes
  | l, segs, [] => ([], l, segs)
  | l, segs, m :: ms =>
    let r := handoverRead l segs m
    let q := handoverReads r.2.1 r.2.2 ms
    (r.1 :: q.1, q.2.1, q.2.2)

end Httpcore.H1
