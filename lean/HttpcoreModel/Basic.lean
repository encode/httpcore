/-
Helpers shared by every model module.  Core Lean only (no Mathlib) so that the
line-protocol driver can be linked as an executable.

Bytes are modelled as `List Nat`; the driver only ever produces values < 256, the
theorems hold for every list (a superset).
-/
namespace Httpcore

abbrev Byte := Nat
abbrev Bytes := List Nat

/-- ASCII lower-casing of one byte (`bytes.lower()` in Python touches A–Z only). -/
def lowerByte (b : Nat) : Nat := if 65 ≤ b ∧ b ≤ 90 then b + 32 else b

def lower (bs : Bytes) : Bytes := bs.map lowerByte

@[simp] theorem lower_nil : lower [] = [] := rfl
@[simp] theorem lower_cons (b : Byte) (bs : Bytes) : lower (b :: bs) = lowerByte b :: lower bs := rfl
@[simp] theorem lower_append (a b : Bytes) : lower (a ++ b) = lower a ++ lower b := by
  simp [lower]
@[simp] theorem lower_length (a : Bytes) : (lower a).length = a.length := by simp [lower]

theorem lowerByte_idem (b : Nat) : lowerByte (lowerByte b) = lowerByte b := by
  unfold lowerByte
  by_cases h : 65 ≤ b ∧ b ≤ 90
  · have h2 : ¬ (65 ≤ b + 32 ∧ b + 32 ≤ 90) := by omega
    rw [if_pos h, if_neg h2]
  · rw [if_neg h, if_neg h]

@[simp] theorem lower_idem (a : Bytes) : lower (lower a) = lower a := by
  simp [lower, lowerByte_idem]

/-- ASCII text to bytes. -/
def ascii (s : String) : Bytes := s.toList.map Char.toNat

/-- decimal rendering, as `b"%d" % n` / `str(n).encode()` -/
def decimal (n : Nat) : Bytes := (Nat.toDigits 10 n).map Char.toNat

/-! ### wire encoding for the driver -/

def hexDigit (n : Nat) : Char :=
  if n < 10 then Char.ofNat (48 + n) else Char.ofNat (87 + n)

def hexOfBytes (bs : Bytes) : String :=
  if bs.isEmpty then "-" else
  String.ofList (bs.foldr (fun b acc => hexDigit (b / 16 % 16) :: hexDigit (b % 16) :: acc) [])

def hexVal (c : Char) : Option Nat :=
  let n := c.toNat
  if 48 ≤ n ∧ n ≤ 57 then some (n - 48)
  else if 97 ≤ n ∧ n ≤ 102 then some (n - 87)
  else if 65 ≤ n ∧ n ≤ 70 then some (n - 55)
  else none

def bytesOfHexChars : List Char → Option Bytes
  | [] => some []
  | [_] => none
  | a :: b :: rest =>
    match hexVal a, hexVal b, bytesOfHexChars rest with
    | some x, some y, some r => some ((x * 16 + y) :: r)
    | _, _, _ => none

def bytesOfHex (s : String) : Option Bytes :=
  if s = "-" then some [] else bytesOfHexChars s.toList

/-- split a list on a separator element -/
def splitOnElem {α} [BEq α] (sep : α) : List α → List (List α)
  | [] => [[]]
  | x :: xs =>
    if x == sep then [] :: splitOnElem sep xs
    else match splitOnElem sep xs with
      | [] => [[x]]
      | h :: t => (x :: h) :: t

def tokens (line : String) : List String :=
  ((splitOnElem ' ' (line.toList.filter (fun c => c ≠ '\n' ∧ c ≠ '\r'))).filter (· ≠ [])).map String.ofList

def commaList (s : String) : List String :=
  if s = "-" then [] else (splitOnElem ',' s.toList).map String.ofList

def joinWith (sep : String) (xs : List String) : String :=
  if xs.isEmpty then "-" else sep.intercalate xs

end Httpcore

namespace Httpcore

/-- Exception classes that can reach a caller.  The first fifteen are the classes of
`httpcore/_exceptions.py`; `other` stands for any class that is not an httpcore class
(ValueError, an h2 / h11 / socksio exception, an OSError …); `cancelled` for the runtime's
cancellation exception. -/
inductive Exc
  | ConnectionNotAvailable | ProxyError | UnsupportedProtocol
  | ProtocolError | RemoteProtocolError | LocalProtocolError
  | TimeoutException | PoolTimeout | ConnectTimeout | ReadTimeout | WriteTimeout
  | NetworkError | ConnectError | ReadError | WriteError
  | other | cancelled
  deriving DecidableEq, Repr, Inhabited

def Exc.all : List Exc :=
  [.ConnectionNotAvailable, .ProxyError, .UnsupportedProtocol, .ProtocolError,
   .RemoteProtocolError, .LocalProtocolError, .TimeoutException, .PoolTimeout,
   .ConnectTimeout, .ReadTimeout, .WriteTimeout, .NetworkError, .ConnectError,
   .ReadError, .WriteError, .other, .cancelled]

def Exc.name : Exc → String
  | .ConnectionNotAvailable => "ConnectionNotAvailable" | .ProxyError => "ProxyError"
  | .UnsupportedProtocol => "UnsupportedProtocol" | .ProtocolError => "ProtocolError"
  | .RemoteProtocolError => "RemoteProtocolError" | .LocalProtocolError => "LocalProtocolError"
  | .TimeoutException => "TimeoutException" | .PoolTimeout => "PoolTimeout"
  | .ConnectTimeout => "ConnectTimeout" | .ReadTimeout => "ReadTimeout"
  | .WriteTimeout => "WriteTimeout" | .NetworkError => "NetworkError"
  | .ConnectError => "ConnectError" | .ReadError => "ReadError" | .WriteError => "WriteError"
  | .other => "Other" | .cancelled => "Cancelled"

def Exc.ofName (s : String) : Option Exc := Exc.all.find? (fun e => e.name == s)

theorem Exc.mem_all (e : Exc) : e ∈ Exc.all := by cases e <;> decide

end Httpcore
