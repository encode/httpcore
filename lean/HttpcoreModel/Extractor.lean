/-!
Generic incremental extractor (`h11`-style pull parser): a state, a buffer, and a function that
either needs more data or produces one event, a new state and the unconsumed rest.  `drain` pulls
events until more data is needed; feeding data in segments is `drain` on the growing buffer.

The one generic theorem: if extraction is *stable* (more data appended to the buffer never changes
an extraction that was already possible), then the event sequence does not depend on how the byte
stream is cut into segments.
-/
namespace Httpcore

structure Extractor (σ ε : Type) where
  extract : σ → List Nat → Option (ε × σ × List Nat)
  rank : σ → Nat
  /-- every extraction consumes at least one byte or lowers the rank -/
  progress : ∀ s b e s' r, extract s b = some (e, s', r) →
    r.length < b.length ∨ (r.length = b.length ∧ rank s' < rank s)
  /-- appended data does not disturb an extraction that is already possible -/
  stable : ∀ s b e s' r x, extract s b = some (e, s', r) → extract s (b ++ x) = some (e, s', r ++ x)

namespace Extractor
variable {σ ε : Type} (E : Extractor σ ε)

/-- pull events until more data is needed: (events, state, residual buffer) -/
def drain (s : σ) (b : List Nat) : List ε × σ × List Nat :=
  match h : E.extract s b with
  | none => ([], s, b)
  | some (e, s', r) =>
    have := E.progress s b e s' r h
    let rec' := drain s' r
    (e :: rec'.1, rec'.2.1, rec'.2.2)
termination_by (b.length, E.rank s)
decreasing_by
  rcases this with h1 | ⟨h1, h2⟩
  · exact Prod.Lex.left _ _ h1
  · rw [h1]; exact Prod.Lex.right _ h2

def pre (evs : List ε) (d : List ε × σ × List Nat) : List ε × σ × List Nat := (evs ++ d.1, d.2.1, d.2.2)

@[simp] theorem pre_nil (d : List ε × σ × List Nat) : pre [] d = d := rfl
@[simp] theorem pre_pre (a b : List ε) (d : List ε × σ × List Nat) : pre a (pre b d) = pre (a ++ b) d := by
  simp [pre]
@[simp] theorem pre_mk (a evs : List ε) (s : σ) (b : List Nat) : pre a (evs, s, b) = (a ++ evs, s, b) := rfl

theorem drain_none {s : σ} {b : List Nat} (h : E.extract s b = none) : E.drain s b = ([], s, b) := by
  rw [drain]; split
  · rfl
  · next e s' r h' => rw [h] at h'; cases h'

theorem drain_some {s : σ} {b : List Nat} {e : ε} {s' : σ} {r : List Nat}
    (h : E.extract s b = some (e, s', r)) : E.drain s b = pre [e] (E.drain s' r) := by
  rw [drain]; split
  · next h' => rw [h] at h'; cases h'
  · next e2 s2 r2 h' =>
    rw [h] at h'; cases h'; rfl

theorem drain_residual (s : σ) (b : List Nat) :
    E.extract (E.drain s b).2.1 (E.drain s b).2.2 = none := by
  induction s, b using drain.induct E with
  | case1 s b h => rw [E.drain_none h]; exact h
  | case2 s b e s' r h _ ih => rw [E.drain_some h]; exact ih

theorem drain_all (P : ε → Prop) (hP : ∀ s b e s' r, E.extract s b = some (e, s', r) → P e) (s : σ) (b : List Nat) :
    ∀ e ∈ (E.drain s b).1, P e := by
  induction s, b using drain.induct E with
  | case1 s b h => rw [E.drain_none h]; simp
  | case2 s b e s' r h _ ih =>
    rw [E.drain_some h]
    intro e' he'
    rcases List.mem_cons.mp he' with rfl | he'
    · exact hP s b e' s' r h
    · exact ih e' he'

theorem drain_append (s : σ) (b x : List Nat) :
    E.drain s (b ++ x) = pre (E.drain s b).1 (E.drain (E.drain s b).2.1 ((E.drain s b).2.2 ++ x)) := by
  induction s, b using drain.induct E with
  | case1 s b h => rw [E.drain_none h]; rfl
  | case2 s b e s' r h _ ih =>
    rw [E.drain_some h, E.drain_some (E.stable s b e s' r x h), ih]
    simp [pre]

/-- feed one network segment: append to the buffer and drain -/
def feed (st : List ε × σ × List Nat) (seg : List Nat) : List ε × σ × List Nat :=
  let d := E.drain st.2.1 (st.2.2 ++ seg)
  (st.1 ++ d.1, d.2.1, d.2.2)

def feedAll (st : List ε × σ × List Nat) (segs : List (List Nat)) : List ε × σ × List Nat :=
  segs.foldl E.feed st

/-- **segmentation independence** — starting from a drained position, feeding the segments one by
one gives the same events, state and residual as draining the concatenation once. -/
theorem segmentation_independent (evs : List ε) (s : σ) (buf : List Nat) (segs : List (List Nat))
    (h : E.extract s buf = none) :
    E.feedAll (evs, s, buf) segs = pre evs (E.drain s (buf ++ segs.flatten)) := by
  induction segs generalizing evs s buf with
  | nil => simp [feedAll, E.drain_none h]
  | cons seg rest ih =>
    rw [feedAll, List.foldl_cons, ← feedAll, feed, ih _ _ _ (E.drain_residual s (buf ++ seg)),
      List.flatten_cons, ← List.append_assoc, E.drain_append s (buf ++ seg)]
    simp

theorem feedAll_start (s : σ) (segs : List (List Nat)) (h : E.extract s [] = none) :
    E.feedAll ([], s, []) segs = E.drain s segs.flatten :=
  E.segmentation_independent [] s [] segs h

end Extractor
end Httpcore
