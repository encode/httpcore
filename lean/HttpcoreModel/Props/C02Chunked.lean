import HttpcoreModel.Props.C02
import HttpcoreModel.Lemmas.Chunked
/-!
# C02 / C01 — chunked framing: the reader against the canonical chunked encoding
-/
namespace Httpcore.C02
open Httpcore Httpcore.H1 Httpcore.H1W

/-- **C02.h1_body_chunked** — a response whose head selects chunked framing, followed by the canonical chunked encoding
of any list of chunks (empty ones included) and by anything else: for every way of cutting that stream into reads, the
caller gets the head and exactly the concatenation of the chunks, complete; what follows the terminating chunk is left
unread. -/
theorem h1_body_chunked (ri : ReqInfo) (raw rest : Bytes) (chunks : List Bytes) (h : Head)
    (hg : HeadGives ri raw h .chunkSize) (hsz : ∀ c ∈ chunks, (hexLower c.length).length ≤ 20)
    (segs : List Bytes) (hs : segs.flatten = raw ++ (writeChunked chunks ++ rest)) :
    (readOpen ri segs).1 = { head := some h, bodyRev := chunks.flatten.reverse, outcome := .complete } ∧
    (readOpen ri segs).2.1 = .done ∧ (readOpen ri segs).2.2 = rest := by
  rw [(reads_of_frames hg (frames_chunked ri chunks hsz) rest segs hs).1]
  exact ⟨rfl, rfl, rfl⟩

end Httpcore.C02
