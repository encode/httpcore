import HttpcoreModel.Lemmas.H1Drain
/-!
# C17 — Upgrade / CONNECT hand-over loses no bytes
-/
namespace Httpcore.C17
open Httpcore Httpcore.H1

theorem feedAll_switched (ri : ReqInfo) (evs : List Ev) (buf : Bytes) (segs : List Bytes) :
    (reader ri).feedAll (evs, .switched, buf) segs = (evs, .switched, buf ++ segs.flatten) := by
  rw [(reader ri).segmentation_independent evs .switched buf segs rfl, drain_switched]
  simp

/-- the head loop stops early, but nothing is lost by that: what it has buffered, followed by the segments it left in the
network, is what the reader's buffer would hold had it gone on reading -/
theorem feedUntil_feedAll (ri : ReqInfo) (st : List Ev × St × Bytes) (segs : List Bytes) :
    (reader ri).feedAll st segs =
      ((feedUntilSwitched ri st segs).1.1, (feedUntilSwitched ri st segs).1.2.1,
        (feedUntilSwitched ri st segs).1.2.2 ++ (feedUntilSwitched ri st segs).2.flatten) := by
  induction segs generalizing st with
  | nil => simp [feedUntilSwitched, Extractor.feedAll]
  | cons seg rest ih =>
    rw [Extractor.feedAll, List.foldl_cons, ← Extractor.feedAll, feedUntilSwitched]
    split
    · next hsw =>
      have := feedAll_switched ri ((reader ri).feed st seg).1 ((reader ri).feed st seg).2.2 rest
      rwa [← hsw] at this
    · exact ih _

/-- **C17.leading_exact** — for every response head `raw` that switches protocols (101 to an
upgrade request, 2xx to CONNECT), every amount of post-head data `d` and every segmentation of
`raw ++ d` into reads (head and data in the same read included): the leading data handed to the
upgrade stream followed by the segments still unread in the network is exactly `d` — nothing lost,
duplicated or reordered. -/
theorem leading_exact (ri : ReqInfo) (raw d : Bytes) (ev : Ev)
    (hx : (reader ri).extract .head raw = some (ev, .switched, []))
    (segs : List Bytes) (hs : segs.flatten = raw ++ d) :
    let r := feedUntilSwitched ri ([], .head, []) segs
    r.1.2.1 = .switched ∧ r.1.2.2 ++ r.2.flatten = d ∧ r.1.1 = [ev] := by
  intro r
  have hall : (reader ri).feedAll ([], .head, []) segs = ([ev], .switched, d) := by
    have hx' := (reader ri).stable .head raw ev .switched [] d hx
    rw [feedAll_head, hs, (reader ri).drain_some hx', List.nil_append, drain_switched]
    rfl
  rw [feedUntil_feedAll, Prod.mk.injEq, Prod.mk.injEq] at hall
  exact ⟨hall.2.1, hall.2.2, hall.1⟩

/-- **C17.read_slices (one read)** — a read of the upgrade stream while leading data remains
returns its first `max_bytes` bytes (so at most `max_bytes`, a prefix, and at least one whenever
`max_bytes ≥ 1`) and keeps the rest; once the leading data is used up reads are passed through. -/
theorem read_slice (leading : Bytes) (m : Nat) :
    upgradeRead leading m = if leading = [] then none else some (leading.take m, leading.drop m) := by
  cases leading <;> rfl

/-- **C17.read_slices (any sequence of max_bytes)** — the results of successive reads, followed by
what is still held, concatenate to the leading data, for every sequence of `max_bytes` values. -/
theorem read_slices (leading : Bytes) (ms : List Nat) :
    (upgradeReads leading ms).1.flatten ++ (upgradeReads leading ms).2 = leading ∧
    ∀ out ∈ (upgradeReads leading ms).1, ∃ m ∈ ms, out.length ≤ m := by
  induction ms generalizing leading with
  | nil => simp [upgradeReads]
  | cons m rest ih =>
    by_cases h : leading = []
    · simp [upgradeReads, read_slice, h]
    · obtain ⟨ih1, ih2⟩ := ih (leading.drop m)
      simp only [upgradeReads, read_slice, if_neg h, List.flatten_cons, List.append_assoc, ih1,
        List.take_append_drop, List.forall_mem_cons, true_and]
      exact ⟨⟨m, .head _, List.length_take_le ..⟩,
        fun o ho => (ih2 o ho).imp fun _ hm' => ⟨.tail _ hm'.1, hm'.2⟩⟩

/-- with `max_bytes ≥ 1` throughout and enough reads, the leading data is delivered completely -/
theorem read_slices_exhaust (leading : Bytes) (ms : List Nat) (hpos : ∀ m ∈ ms, 1 ≤ m)
    (hlen : leading.length ≤ ms.length) : (upgradeReads leading ms).2 = [] := by
  induction ms generalizing leading with
  | nil => simpa [upgradeReads] using hlen
  | cons m rest ih =>
    by_cases h : leading = []
    · simp [upgradeReads, read_slice, h]
    · simp only [upgradeReads, read_slice, if_neg h]
      have := hpos m (.head _)
      have := List.length_pos_iff.mpr h
      exact ih _ (fun m' hm' => hpos m' (.tail _ hm'))
        (by simp only [List.length_drop, List.length_cons] at hlen ⊢; omega)

/-! non-vacuity: a 101 head and a CONNECT 200 head switch protocols -/
example : (reader ⟨false, false, true⟩).extract .head (ascii "HTTP/1.1 101 Switching Protocols\r\nUpgrade: websocket\r\n\r\n")
    = some (.info ⟨ascii "1.1", 101, ascii "Switching Protocols", [(ascii "Upgrade", ascii "websocket")]⟩, .switched, []) := by
  decide +kernel
example : (reader ⟨false, true, false⟩).extract .head (ascii "HTTP/1.1 200 OK\r\n\r\n")
    = some (.response ⟨ascii "1.1", 200, ascii "OK", []⟩, .switched, []) := by decide +kernel

/-! ## through the leading data and on into the live connection -/

theorem netRead_exact (segs : List Bytes) (m : Nat) :
    (netRead segs m).1 ++ (netRead segs m).2.flatten = segs.flatten ∧ (netRead segs m).1.length ≤ m := by
  cases segs with
  | nil => simp [netRead]
  | cons s rest =>
    simp only [netRead]
    split
    · exact ⟨by simp [← List.append_assoc], List.length_take_le m s⟩
    · exact ⟨by simp, by simp only; omega⟩

/-- provided no segment in the network is empty, a read with `max_bytes ≥ 1` takes at least one
byte if there is any (hence the truncated subtraction) and leaves no empty segment behind -/
theorem netRead_progress (segs : List Bytes) (m : Nat) (hm : 1 ≤ m) (hne : ∀ s ∈ segs, s ≠ []) :
    (∀ s ∈ (netRead segs m).2, s ≠ []) ∧
    (netRead segs m).2.flatten.length ≤ segs.flatten.length - 1 := by
  cases segs with
  | nil => simp [netRead]
  | cons s rest =>
    obtain ⟨hs, hrest⟩ := List.forall_mem_cons.mp hne
    have := List.length_pos_iff.mpr hs
    simp only [netRead]
    split
    · refine ⟨List.forall_mem_cons.mpr ⟨?_, hrest⟩, ?_⟩
      · rw [Ne, List.drop_eq_nil_iff]; omega
      · simp only [List.flatten_cons, List.length_append, List.length_drop]; omega
    · exact ⟨hrest, by simp only [List.flatten_cons, List.length_append]; omega⟩

theorem handoverRead_eq (l : Bytes) (segs : List Bytes) (m : Nat) :
    handoverRead l segs m =
      if l = [] then ((netRead segs m).1, [], (netRead segs m).2) else (l.take m, l.drop m, segs) := by
  by_cases h : l = [] <;> simp [handoverRead, read_slice, h]

/-- **C17.handover_read** — one read of the handed-over stream returns at most `max_bytes` bytes, and what it
returns, followed by the leading data and the network data that remain, is what was there before the
read: nothing lost, duplicated or reordered. While leading data remains the network is not read at all
(so live data can never overtake it), and once it is used up the leading data stays empty. -/
theorem handover_read (l : Bytes) (segs : List Bytes) (m : Nat) :
    let r := handoverRead l segs m
    r.1 ++ r.2.1 ++ r.2.2.flatten = l ++ segs.flatten ∧ r.1.length ≤ m ∧
    (l ≠ [] → r.2.2 = segs ∧ r.1 ++ r.2.1 = l) ∧ (l = [] → r.2.1 = []) := by
  intro r
  have hn := netRead_exact segs m
  by_cases hl : l = [] <;> simp [r, handoverRead_eq, hl, hn, Nat.min_le_left]

/-- the measure of `handover_reads_exhaust`: a read with `max_bytes ≥ 1` lowers the number of bytes
still undelivered (leading data and network), unless it is zero already -/
theorem handoverRead_progress (l : Bytes) (segs : List Bytes) (m : Nat) (hm : 1 ≤ m)
    (hne : ∀ s ∈ segs, s ≠ []) :
    (∀ s ∈ (handoverRead l segs m).2.2, s ≠ []) ∧
    (handoverRead l segs m).2.1.length + (handoverRead l segs m).2.2.flatten.length
      ≤ l.length + segs.flatten.length - 1 := by
  rw [handoverRead_eq]
  split
  · next h => subst h; simpa using netRead_progress segs m hm hne
  · next h =>
    have := List.length_pos_iff.mpr h
    exact ⟨hne, by simp only [List.length_drop]; omega⟩

/-- **C17.handover_reads (any sequence of max_bytes, any network segmentation)** — the results of
successive reads, followed by what is still held and what is still in the network, concatenate to
leading data ++ live data. -/
theorem handover_reads (l : Bytes) (segs : List Bytes) (ms : List Nat) :
    let h := handoverReads l segs ms
    h.1.flatten ++ h.2.1 ++ h.2.2.flatten = l ++ segs.flatten ∧ h.1.length = ms.length ∧
    ∀ i (hi : i < h.1.length) (hm : i < ms.length), (h.1[i]).length ≤ ms[i] := by
  induction ms generalizing l segs with
  | nil => simp [handoverReads]
  | cons m rest ih =>
    obtain ⟨h1, h2, -⟩ := handover_read l segs m
    obtain ⟨i1, i2, i3⟩ := ih (handoverRead l segs m).2.1 (handoverRead l segs m).2.2
    refine ⟨?_, congrArg Nat.succ i2, fun i hi hm => ?_⟩
    · simp only [handoverReads, List.flatten_cons, List.append_assoc] at i1 h1 ⊢
      rw [i1, h1]
    · cases i with
      | zero => exact h2
      | succ k => exact i3 k (Nat.lt_of_succ_lt_succ hi) (Nat.lt_of_succ_lt_succ hm)

/-- **C17.handover_exact (end to end)** — for every switching response head `raw`, every amount of
post-head data `d`, every segmentation of `raw ++ d` into network reads and every sequence of
`max_bytes` values used by the caller: what the caller's reads return, followed by what the stream
and the network still hold, is exactly `d`. In particular the concatenation of the reads is a prefix
of `d` at every moment. -/
theorem handover_exact (ri : ReqInfo) (raw d : Bytes) (ev : Ev)
    (hx : (reader ri).extract .head raw = some (ev, .switched, []))
    (segs : List Bytes) (hs : segs.flatten = raw ++ d) (ms : List Nat) :
    let r := feedUntilSwitched ri ([], .head, []) segs
    let h := handoverReads r.1.2.2 r.2 ms
    h.1.flatten ++ h.2.1 ++ h.2.2.flatten = d ∧ h.1.flatten <+: d := by
  intro r h
  obtain ⟨_, hd, _⟩ := leading_exact ri raw d ev hx segs hs
  obtain ⟨hh, _, _⟩ := handover_reads r.1.2.2 r.2 ms
  have : h.1.flatten ++ h.2.1 ++ h.2.2.flatten = d := by rw [← hd]; exact hh
  exact ⟨this, ⟨h.2.1 ++ h.2.2.flatten, by rw [← this]; simp⟩⟩

/-- with `max_bytes ≥ 1` throughout and as many reads as there are bytes, everything is delivered -/
theorem handover_reads_exhaust (l : Bytes) (segs : List Bytes) (ms : List Nat) (hpos : ∀ m ∈ ms, 1 ≤ m)
    (hne : ∀ s ∈ segs, s ≠ []) (hlen : l.length + segs.flatten.length ≤ ms.length) :
    (handoverReads l segs ms).2.1 = [] ∧ (handoverReads l segs ms).2.2 = [] := by
  induction ms generalizing l segs with
  | nil =>
    simp only [List.length_nil, Nat.le_zero, Nat.add_eq_zero_iff, List.length_eq_zero_iff,
      List.flatten_eq_nil_iff] at hlen
    cases segs with
    | nil => exact ⟨hlen.1, rfl⟩
    | cons s _ => exact absurd (hlen.2 s (.head _)) (hne s (.head _))
  | cons m rest ih =>
    obtain ⟨hne', hlt⟩ := handoverRead_progress l segs m (hpos m (.head _)) hne
    exact ih _ _ (fun m' hm' => hpos m' (.tail _ hm')) hne'
      (by simp only [List.length_cons] at hlen; omega)

/-! non-vacuity: leading data "ab", live data "cde" | "f", reads of 1, 5, 2, 9 bytes -/
example : handoverReads [97, 98] [[99, 100, 101], [102]] [1, 5, 2, 9]
    = ([[97], [98], [99, 100], [101]], [], [[102]]) := by decide

end Httpcore.C17
