import HttpcoreModel.Establish
import HttpcoreModel.Lemmas.PoolPass
import HttpcoreModel.Props.C19
/-!
# C10 — Requests travel only on connections made for their origin, TLS per scheme

The scheme tables (`Gen.*Schemes`) are regenerated from the source on every run.
-/
namespace Httpcore.C10
open Httpcore Httpcore.Est

def http : Bytes := ascii "http"
def https : Bytes := ascii "https"
def ws : Bytes := ascii "ws"
def wss : Bytes := ascii "wss"

/-- the four schemes the pool accepts, as regenerated from the source -/
theorem scheme_tables :
    Gen.supportedSchemes = [http, https, ws, wss] ∧
    Gen.directTlsSchemes = [https, wss] ∧
    Gen.socksProxySchemes = [ascii "socks5", ascii "socks5h"] ∧
    Gen.forwardSchemes = [http] := by decide

def secure (scheme : Bytes) : Bool := scheme = https || scheme = wss

/-- **C10.kind_selection** — the connection kind as a function of (proxy scheme, origin scheme):
no proxy → direct; SOCKS proxy → SOCKS for every scheme; HTTP(S) proxy → plain `http` is forwarded,
everything else is tunnelled with CONNECT.  (Holds for any scheme text, supported or not.) -/
theorem kind_selection (p : Pool) (scheme : Bytes) :
    kindOf p scheme =
      match p.proxy with
      | none => .direct
      | some px =>
        if px.scheme = ascii "socks5" ∨ px.scheme = ascii "socks5h" then .socks
        else if scheme = http then .forward else .tunnel := by
  obtain ⟨_, _, hsocks, hfwd⟩ := scheme_tables
  cases hp : p.proxy <;> simp [kindOf, hp, hsocks, hfwd]

theorem tlsToOrigin_eq (k : Kind) (scheme : Bytes) :
    tlsToOrigin k scheme = (k != .forward && secure scheme) := by
  have h1 : Gen.directTlsSchemes = [https, wss] := rfl
  have h2 : Gen.tunnelTlsSchemes = some [https, wss] := rfl
  have h3 : Gen.socksTlsSchemes = [https, wss] := rfl
  cases k <;> simp [tlsToOrigin, secure, h1, h2, h3]

/-- **C10.tls_iff** — for every proxy mode and every supported scheme, the stream that carries
the request is TLS-wrapped (to the origin) iff the scheme is `https` or `wss`. -/
theorem tls_iff (p : Pool) (scheme : Bytes) (hs : scheme ∈ Gen.supportedSchemes) :
    tlsToOrigin (kindOf p scheme) scheme = secure scheme := by
  have _ := hs -- not needed: only `http` is ever forwarded, and `http` is not secure
  rw [tlsToOrigin_eq]
  fun_cases kindOf p scheme with
  | case3 _ _ _ hf =>
    obtain rfl : scheme = http := by simpa [scheme_tables.2.2.2] using hf
    rfl
  | _ => rfl

/-- **C10.sni_rule** — the server name of the origin handshake is the `sni_hostname` extension
when given (the CONNECT tunnel uses the URL host), else the URL host: always one of the two. -/
theorem sni_rule (k : Kind) (host : Bytes) (sni : Option Bytes) :
    serverName k host sni = host ∨ (∃ s, sni = some s ∧ s ≠ [] ∧ serverName k host sni = s) := by
  fun_cases serverName k host sni with
  | case3 _ s hs => exact .inr ⟨s, rfl, fun h => hs (by simp [h]), rfl⟩
  | _ => exact .inl rfl

/-- **C10.alpn_offer** — ALPN offers `h2` iff HTTP/2 is enabled, and always offers `http/1.1`. -/
theorem alpn_offer_h2_iff (http2 : Bool) :
    ("h2" ∈ alpnOffer http2 ↔ http2 = true) ∧ "http/1.1" ∈ alpnOffer http2 := by
  cases http2 <;> simp [alpnOffer]

/-- **C10.h2_iff** — HTTP/2 is spoken iff ALPN selected `h2`, or HTTP/2 is enabled and HTTP/1.1 is
disabled. -/
theorem h2_iff (http1 http2 : Bool) (sel : Option String) :
    speaksH2 http1 http2 sel = true ↔ (sel = some "h2" ∨ (http2 = true ∧ http1 = false)) := by
  simp [speaksH2]

/-- **C10.origin_gate (establishment)** — whatever the proxy mode, the host and port that the new
stream is established *to* — the direct connect target, the CONNECT target, the SOCKS address —
are exactly the request origin's host and port; only the TCP hop goes to the proxy. -/
theorem establishment_target (p : Pool) (o : Url.Origin) (sni : Option Bytes) :
    (plan p o sni).target = (o.host, o.port) ∧
    (p.proxy = none → (plan p o sni).connectHost = o.host ∧ (plan p o sni).connectPort = o.port) ∧
    (∀ px, p.proxy = some px → (plan p o sni).connectHost = px.host ∧ (plan p o sni).connectPort = px.port) := by
  -- on each path of `kindOf` the proxy and the kind are known, and `plan` is a record literal
  unfold plan
  fun_cases kindOf p o.scheme <;> simp [*]

/-- **C10.origin_gate (pool)** — the assignment pass gives a request either a pooled connection
whose origin equals the request's origin, or a connection newly created for that origin. -/
theorem assigned_connection_has_request_origin (cfg : Pool.Cfg) (s : Pool.State) (r : Pool.Req) (cid : Nat)
    (h : (Pool.assignOne cfg s r).2.conn = some cid) (hr : r.conn = none) :
    (∃ c ∈ s.conns, c.id = cid ∧ c.origin = r.origin) ∨
    (cid = s.nextId ∧ ∃ c ∈ (Pool.assignOne cfg s r).1.conns, c.id = cid ∧ c.origin = r.origin) := by
  rcases Pool.assignOne_cases cfg s r with ⟨c, hc, e⟩ | ⟨_, _, e⟩ | ⟨_, _, _, _, e⟩ | ⟨_, _, _, e⟩ <;> rw [e] at h ⊢
  · obtain ⟨hc, ho, _⟩ := Pool.mem_availFor.mp (List.mem_of_mem_head? hc)
    exact Or.inl ⟨c, hc, Option.some.inj h, ho⟩
  · exact Or.inr ⟨(Option.some.inj h).symm, _, List.mem_append_right _ List.mem_cons_self, Option.some.inj h, rfl⟩
  · exact Or.inr ⟨(Option.some.inj h).symm, _, List.mem_append_right _ List.mem_cons_self, Option.some.inj h, rfl⟩
  · rw [hr] at h; cases h

/-- **C10.near_miss** — two URLs that differ in exactly one of scheme / host / effective port have
different origins (so the pool's `origin ==` test never lets them share a connection), while an
explicit default port and no port give the same origin. (From C19.) -/
theorem near_miss_origins_differ (u v : Url.URL) (ou ov : Url.Origin) (hu : Url.origin u = some ou)
    (hv : Url.origin v = some ov)
    (hdiff : u.scheme ≠ v.scheme ∨ u.host ≠ v.host ∨ C19.effectivePort u ≠ C19.effectivePort v) : ou ≠ ov :=
  C19.origin_distinguishes u v ou ov hu hv hdiff

/-! non-vacuity -/
example : tlsToOrigin (kindOf ⟨some ⟨ascii "http", ascii "p", 3128, none, []⟩, true, false⟩ ws) ws = false := by decide +kernel
example : tlsToOrigin (kindOf ⟨some ⟨ascii "socks5", ascii "p", 1080, none, []⟩, true, false⟩ wss) wss = true := by decide +kernel

end Httpcore.C10
