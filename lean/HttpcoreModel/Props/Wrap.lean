import HttpcoreModel.Generated
import HttpcoreModel.Pool
/-!
# The wrappers around a protocol connection, as the pool sees them (used by C04, C05, C07)

`AsyncHTTPConnection`, `AsyncSocks5Connection` and `AsyncTunnelHTTPConnection` answer the pool's four questions either themselves
(while nothing is established) or by asking the HTTP/1.1 / HTTP/2 connection inside.  The functions `Gen.wrap*` are translated from
the source on every run; the theorems quantify over all values of the flags and of the inner connection's answers.
-/
namespace Httpcore.Wrap
open Httpcore

attribute [local simp] Gen.wrapDirectIsAvailable Gen.wrapDirectHasExpired Gen.wrapDirectIsIdle Gen.wrapDirectIsClosed
  Gen.wrapSocksIsAvailable Gen.wrapSocksHasExpired Gen.wrapSocksIsIdle Gen.wrapSocksIsClosed
  Gen.wrapTunnelIsAvailable Gen.wrapTunnelHasExpired Gen.wrapTunnelIsIdle Gen.wrapTunnelIsClosed

/-- **failed_establishment_is_dropped** (C04, C05) - a direct or SOCKS connection whose establishment has failed and that holds no
protocol connection calls itself closed and is not available: the pool's next pass removes it from its list (first branch of the
house-keeping loop) and never hands it to a request. -/
theorem failed_establishment_is_dropped (connected http1 http2 https ia ie ii ic : Bool) :
    Gen.wrapDirectIsClosed false true connected http1 http2 https ia ie ii ic = true ∧
    Gen.wrapDirectIsAvailable false true connected http1 http2 https ia ie ii ic = false ∧
    Gen.wrapSocksIsClosed false true connected http1 http2 https ia ie ii ic = true ∧
    Gen.wrapSocksIsAvailable false true connected http1 http2 https ia ie ii ic = false := by
  simp

/-- **establishing_is_kept** (C05, C09) - while a direct or SOCKS connection is being established
(nothing inside yet, no failure recorded) it is not idle, not expired and not closed: the only branch of the house-keeping loop
that can take it is "held by no request" - i.e. it stays exactly as long as the request that is establishing it. -/
theorem establishing_is_kept (connected http1 http2 https ia ie ii ic : Bool) :
    Gen.wrapDirectIsClosed false false connected http1 http2 https ia ie ii ic = false ∧
    Gen.wrapDirectIsIdle false false connected http1 http2 https ia ie ii ic = false ∧
    Gen.wrapDirectHasExpired false false connected http1 http2 https ia ie ii ic = false ∧
    Gen.wrapSocksIsClosed false false connected http1 http2 https ia ie ii ic = false ∧
    Gen.wrapSocksIsIdle false false connected http1 http2 https ia ie ii ic = false ∧
    Gen.wrapSocksHasExpired false false connected http1 http2 https ia ie ii ic = false := by
  simp

/-- **establishing_shared_iff_h2_possible** (C07, C10) - a connection that is still being established is offered to further
requests exactly when it may turn out to be HTTP/2: HTTP/2 enabled and (TLS, where ALPN decides, or HTTP/1.1 disabled). The same
rule in all three classes. -/
theorem establishing_shared_iff_h2_possible (http1 http2 https ia ie ii : Bool) :
    Gen.wrapDirectIsAvailable false false false http1 http2 https ia ie ii false = (http2 && (https || !http1)) ∧
    Gen.wrapSocksIsAvailable false false false http1 http2 https ia ie ii false = (http2 && (https || !http1)) ∧
    Gen.wrapTunnelIsAvailable true false false http1 http2 https ia ie ii false = (http2 && (https || !http1)) := by
  simp

/-- **established_delegates** - once a protocol connection exists (and, for a tunnel, the CONNECT has succeeded or the proxy
connection is closed) every answer is the inner connection's own: the life-cycle theorems (`Props/Life.lean`) apply unchanged. -/
theorem established_delegates (cf http1 http2 https ia ie ii ic : Bool) :
    Gen.wrapDirectIsAvailable true cf true http1 http2 https ia ie ii ic = ia ∧
    Gen.wrapDirectHasExpired true cf true http1 http2 https ia ie ii ic = ie ∧
    Gen.wrapDirectIsIdle true cf true http1 http2 https ia ie ii ic = ii ∧
    Gen.wrapDirectIsClosed true cf true http1 http2 https ia ie ii ic = ic ∧
    Gen.wrapSocksIsAvailable true cf true http1 http2 https ia ie ii ic = ia ∧
    Gen.wrapSocksHasExpired true cf true http1 http2 https ia ie ii ic = ie ∧
    Gen.wrapSocksIsIdle true cf true http1 http2 https ia ie ii ic = ii ∧
    Gen.wrapSocksIsClosed true cf true http1 http2 https ia ie ii ic = ic ∧
    Gen.wrapTunnelIsAvailable true cf true http1 http2 https ia ie ii ic = ia ∧
    Gen.wrapTunnelHasExpired true cf true http1 http2 https ia ie ii ic = ie ∧
    Gen.wrapTunnelIsIdle true cf true http1 http2 https ia ie ii ic = ii ∧
    Gen.wrapTunnelIsClosed true cf true http1 http2 https ia ie ii ic = ic := by
  simp

/-- **closed_tunnel_not_shared** (C07, F-C07-a) - a tunnel whose proxy connection has been closed is not offered as "may become
HTTP/2": it answers like the (closed) connection inside. -/
theorem closed_tunnel_not_shared (hi cf connected http1 http2 https ia ie ii : Bool) :
    Gen.wrapTunnelIsAvailable hi cf connected http1 http2 https ia ie ii true = ia := by
  simp

/-- a never-available answer is never "idle to be evicted" and "available" at once for a failed connection: the pool view of a
failed wrapper goes through the *closed* branch, whatever the other predicates say -/
theorem failed_view_dropped (cfg : Pool.Cfg) (res : List Nat) (id origin : Nat) (rest cur : List Pool.Conn) (closing : List (Pool.Conn × Pool.Reason))
    (connected http1 http2 https ia ie ii ic : Bool) :
    let c : Pool.Conn := { id := id, origin := origin,
                           closed := Gen.wrapDirectIsClosed false true connected http1 http2 https ia ie ii ic,
                           expired := Gen.wrapDirectHasExpired false true connected http1 http2 https ia ie ii ic,
                           idle := Gen.wrapDirectIsIdle false true connected http1 http2 https ia ie ii ic,
                           available := Gen.wrapDirectIsAvailable false true connected http1 http2 https ia ie ii ic }
    Pool.cleanup cfg res (c :: rest) cur closing = Pool.cleanup cfg res rest (cur.erase c) closing := by
  intro c
  have hc : c.closed = true := (failed_establishment_is_dropped connected http1 http2 https ia ie ii ic).1
  simp [Pool.cleanup, hc]

end Httpcore.Wrap
