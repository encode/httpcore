import HttpcoreModel.Props.C05
import HttpcoreModel.Lemmas.PoolPass
import HttpcoreModel.Generated
/-!
# C05 at the level of the assignment pass: no connection is left behind by a request that has gone

`Sys` (Props/C05.lean) follows callers and direct HTTP/1.1 connections through every interleaving.  This file is about
`_assign_requests_to_connections` itself, for *every* kind of connection (they are seen through their status predicates only):
after a pass of the current source, every connection in the pool is idle or is the connection of a request that is still in the
queue.  A connection that was handed to a request which then left - cancelled between assignment and start, timed out in the
step in which it was served, cancelled before it opened an HTTP/2 stream - is therefore closed by the first pass that runs after
the request has been removed, which is the pass in the request's own exception handler.
-/
namespace Httpcore.C05
open Httpcore.Pool

def Held (conns : List Conn) (rs : List Req) : Prop :=
  ∀ c ∈ conns, c.idle = true ∨ ∃ q ∈ rs, q.conn = some c.id

/-- `r` held nothing, so whatever is in `conns'` beyond `conns` need only be held by its successor `r'` -/
theorem Held.replace {conns conns' : List Conn} {done rest : List Req} {r : Req} (r' : Req) (hr : r.conn = none)
    (h : Held conns (done ++ r :: rest)) (hsub : ∀ c ∈ conns', c ∈ conns ∨ r'.conn = some c.id) :
    Held conns' ((done ++ [r']) ++ rest) := by
  intro c hc
  rcases hsub c hc with hc | hc
  · rcases h c hc with h0 | ⟨q, hq, hqc⟩
    · exact Or.inl h0
    · simp only [List.mem_append, List.mem_cons] at hq
      rcases hq with hq | rfl | hq
      · exact Or.inr ⟨q, by simp [hq], hqc⟩
      · rw [hr] at hqc; cases hqc
      · exact Or.inr ⟨q, by simp [hq], hqc⟩
  · exact Or.inr ⟨r', by simp, hc⟩

theorem assignOne_held (cfg : Cfg) (s : State) (r : Req) (rest done : List Req) (hr : r.conn = none)
    (h : Held s.conns (done ++ r :: rest)) :
    Held (assignOne cfg s r).1.conns ((done ++ [(assignOne cfg s r).2]) ++ rest) := by
  rcases assignOne_cases cfg s r with ⟨_, _, e⟩ | ⟨_, _, e⟩ | ⟨_, _, _, _, e⟩ | ⟨_, _, _, e⟩ <;> rw [e] <;>
    apply h.replace _ hr <;> intro c hc
  · exact Or.inl hc
  · rcases List.mem_append.mp hc with hc | hc
    · exact Or.inl hc
    · exact Or.inr (by rw [List.mem_singleton.mp hc]; rfl)
  · rcases List.mem_append.mp hc with hc | hc
    · exact Or.inl (List.mem_of_mem_erase hc)
    · exact Or.inr (by rw [List.mem_singleton.mp hc]; rfl)
  · exact Or.inl hc

theorem assignAll_held (cfg : Cfg) (s : State) (rs done : List Req) (h : Held s.conns (done ++ rs)) :
    Held (assignAll cfg s rs done).conns (assignAll cfg s rs done).reqs := by
  simpa using assignAll_induct cfg (I := fun s done todo => Held s.conns (done ++ todo))
    (fun _ _ _ _ _ h => by simpa using h) (fun s r rest done hr h => assignOne_held cfg s r rest done hr h) (fun _ _ h => h)
    s rs done h

/-- **C05.no_abandoned_after_pass** — with the clean-up rule of the current source (`Gen.poolReclaimsAbandoned`), for every pool
state with distinct connections, every queue and every configuration: after a pass, every connection in the pool is idle or
is the connection of a request that is in the queue after the pass. -/
theorem no_abandoned_after_pass (cfg : Cfg) (hp : cfg.protectAssigned = true) (hr : cfg.reclaimAbandoned = true) (s : State)
    (hnd : s.conns.Nodup) :
    ∀ c ∈ (pass cfg s).conns, c.idle = true ∨ ∃ q ∈ (pass cfg s).reqs, q.conn = some c.id := by
  simp only [pass, hp, if_true]
  apply assignAll_held
  intro c hc
  obtain ⟨_, _, _, hk⟩ := cleanup_kept cfg _ s.conns s.conns [] hnd hc ((cleanup_sublist ..).mem hc)
  rcases (verdict_keep hk).2.2.2 hr with h | h
  · exact Or.inl h
  · obtain ⟨q, hq, hqc⟩ := List.mem_filterMap.mp (isReserved_iff.mp h)
    exact Or.inr ⟨q, hq, hqc⟩

/-- in particular: once the queue is empty (every caller has left), every connection left in the pool is idle - nothing is in
limbo, whatever happened to the requests -/
theorem quiescent_pool_all_idle (cfg : Cfg) (hp : cfg.protectAssigned = true) (hr : cfg.reclaimAbandoned = true) (s : State)
    (hnd : s.conns.Nodup) (hq : s.reqs = []) : ∀ c ∈ (pass cfg s).conns, c.idle = true := by
  intro c hc
  rcases no_abandoned_after_pass cfg hp hr s hnd c hc with h | ⟨q, hq', _⟩
  · exact h
  · have : (pass cfg s).reqs = [] := by simp [pass, hq, assignAll]
    rw [this] at hq'; cases hq'

/-- Tie A: the current source has the rule -/
theorem source_reclaims_abandoned : Gen.poolReclaimsAbandoned = true ∧ Gen.poolProtectsAssigned = true := ⟨rfl, rfl⟩

/-- the rule closes only what nobody holds (a held connection is never reclaimed): `Pool.cleanup`'s `abandoned` reason -/
theorem reclaimed_is_unheld (cfg : Cfg) (res : List Nat) (snap cur : List Conn) (closing : List (Conn × Reason))
    (hold : ∀ e ∈ closing, e.2 = .abandoned → e.1.idle = false ∧ isReserved res e.1 = false) :
    ∀ e ∈ (cleanup cfg res snap cur closing).2, e.2 = .abandoned → e.1.idle = false ∧ isReserved res e.1 = false := by
  intro e he hab
  rcases cleanup_closed cfg res snap cur closing he with h | ⟨_, _, _, _, hv⟩
  · exact hold e h hab
  · rcases verdict_close hv with ⟨h, _⟩ | ⟨h, _⟩ | ⟨_, _, hi, hres⟩
    · rw [hab] at h; cases h
    · rw [hab] at h; cases h
    · exact ⟨hi, hres⟩

/-! the 1.0.7 behaviour, for contrast: a connection (id 0) that is neither idle nor held by anyone survives the pass -/
def cfg107 : Cfg := { maxConn := 1, maxKeepalive := 1, newAvail := fun _ => false, countIdleOnly := false, protectAssigned := false }
def cfgNow : Cfg := { cfg107 with countIdleOnly := true, protectAssigned := true, reclaimAbandoned := true }
def limbo : State := { conns := [⟨0, 0, false, false, false, false⟩], reqs := [], closing := [], nextId := 1 }

theorem abandoned_survives_107 : (pass cfg107 limbo).conns = limbo.conns := by decide
theorem abandoned_reclaimed_now : (pass cfgNow limbo).conns = [] ∧ (pass cfgNow limbo).closing.map (·.1.id) = [0] := by decide

/-- non-vacuity of `no_abandoned_after_pass`: a held connecting connection stays, next to an idle one -/
example : (pass cfgNow { conns := [⟨0, 0, false, false, false, false⟩, ⟨1, 1, false, false, true, true⟩],
                         reqs := [⟨7, 0, some 0⟩], closing := [], nextId := 2 }).conns.map (·.id) = [0, 1] := by decide

end Httpcore.C05
