import HttpcoreModel.Lemmas.HeadLine
/-!
# C03 - the request head round trip: what httpcore writes for an accepted request parses back to exactly that request
-/
namespace Httpcore.C03P
open Httpcore Httpcore.H1 Httpcore.H1W Httpcore.H1P

theorem parseRequestLine_ok (m t : Bytes) (hm : m ≠ []) (ht : t ≠ []) (hm32 : ∀ x ∈ m, x ≠ 32) (ht32 : ∀ x ∈ t, x ≠ 32) :
    parseRequestLine (m ++ 32 :: (t ++ 32 :: ascii "HTTP/1.1")) = some (m, t) := by
  have p1 : ∀ x ∈ m, (x != 32) = true := fun x hx => by simpa using hm32 x hx
  have p2 : ∀ x ∈ t, (x != 32) = true := fun x hx => by simpa using ht32 x hx
  have p0 : ((32 : Nat) != 32) = false := by simp
  simp only [parseRequestLine, Url.dropWhile_append_stop _ m 32 _ p1 p0, Url.takeWhile_append_stop _ m 32 _ p1 p0,
    Url.dropWhile_append_stop _ t 32 _ p2 p0, Url.takeWhile_append_stop _ t 32 _ p2 p0]
  simp [hm, ht]

/-- what `h11.Request` accepts, as far as the head's bytes are concerned -/
def WellFormed (m t : Bytes) (hs : List Header) : Prop :=
  m ≠ [] ∧ m.all isTokenChar = true ∧ t ≠ [] ∧ t.all isVchar = true ∧
  ∀ h ∈ hs, h.1 ≠ [] ∧ h.1.all isTokenChar = true ∧ validFieldValue h.2 = true

theorem writeHead_lines (m t : Bytes) (hs : List Header) (rest : Bytes) :
    writeHead m t hs ++ rest =
      (m ++ 32 :: (t ++ 32 :: ascii "HTTP/1.1")) ++ 13 :: 10 ::
        ((((hostFirst hs).map fun x => x.1 ++ [58, 32] ++ x.2).map (· ++ [13, 10])).flatten ++ 13 :: 10 :: rest) := by
  have hl : headerLine = fun x => x.1 ++ 58 :: 32 :: (x.2 ++ [13, 10]) := by
    funext x; simp [headerLine, crlf]
  simp only [writeHead, writeHeaders, hostFirst, hl, crlf, List.map_append, List.flatten_append, List.map_map]
  simp [ascii, Function.comp_def]

/-- **C03.head_roundtrip** - for every request head that satisfies h11's own conditions (method and header names are tokens, the
target is visible ASCII, header values are field values) and every continuation `rest` of the byte stream (body, next request):
the bytes httpcore writes parse - by the request-line grammar and h11's header regex - to exactly that method, that target and
those headers (Host first, the others in the caller's order, each name and value byte for byte), and the parser stops exactly
where the head ends. -/
theorem head_roundtrip (m t : Bytes) (hs : List Header) (rest : Bytes) (hw : WellFormed m t hs) :
    parseRequestHead (writeHead m t hs ++ rest) = some ⟨m, t, hostFirst hs, rest⟩ := by
  obtain ⟨hm, hmt, ht, htv, hh⟩ := hw
  -- method and target are visible ASCII: no SP (where the request line is split), no CR (where it ends)
  have hm' : ∀ x ∈ m, x ≠ 32 ∧ x ≠ 13 := fun x hx => by have := token_inLine hmt x hx; omega
  have ht' : ∀ x ∈ t, x ≠ 32 ∧ x ≠ 13 := fun x hx => by
    have := (isVchar_iff x).mp (List.all_eq_true.mp htv x hx); omega
  have hhf : ∀ x ∈ hostFirst hs, x.1 ≠ [] ∧ x.1.all isTokenChar = true ∧ validFieldValue x.2 = true := by
    intro x hx
    simp only [hostFirst, List.mem_append, List.mem_filter] at hx
    exact hh x (hx.elim And.left And.left)
  have hline13 : ∀ x ∈ m ++ 32 :: (t ++ 32 :: ascii "HTTP/1.1"), x ≠ 13 := by
    simp only [List.forall_mem_append, List.forall_mem_cons]
    exact ⟨fun x hx => (hm' x hx).2, by decide, fun x hx => (ht' x hx).2, by decide, by decide⟩
  simp only [parseRequestHead, writeHead_lines, cutLine_append _ _ hline13,
    parseRequestLine_ok m t hm ht (fun x hx => (hm' x hx).1) (fun x hx => (ht' x hx).1)]
  rw [cutLines_lines _ _ (List.forall_mem_map.mpr fun x hx => by simp [(hhf x hx).1])
    (List.forall_mem_map.mpr fun x hx y hy => (canonLine_inLine x.1 x.2 (hhf x hx).2.1 (hhf x hx).2.2 y hy).1)]
  simp only [optAllM_map parseHeaderLine _ id _ fun x hx => parseHeaderLine_canon x.1 x.2 (hhf x hx).1 (hhf x hx).2.1 (hhf x hx).2.2,
    List.map_id_fun, id_eq]

theorem digits_valid (v : Bytes) (hd : v.all H1.isDigit = true) : validFieldValue v = true :=
  validFieldValue_of_vchars v fun x hx => by
    have := List.all_eq_true.mp hd x hx
    simp only [isDigit_iff, isFieldVchar_iff] at *; omega

theorem forall_of_map_cons {α} {P : α → Prop} {a : α} {r : Option (List α)} {l : List α}
    (h : r.map (a :: ·) = some l) (ha : P a) (ih : ∀ t, r = some t → ∀ x ∈ t, P x) : ∀ x ∈ l, P x := by
  obtain ⟨t, ht, rfl⟩ := Option.map_eq_some_iff.mp h
  exact List.forall_mem_cons.mpr ⟨ha, ih t ht⟩

theorem rowOK_of_guard {n v : Bytes} (h : ¬(!(n != [] && n.all isTokenChar) || !validFieldValue v) = true) :
    n ≠ [] ∧ n.all isTokenChar = true ∧ validFieldValue v = true := by
  simpa [and_assoc] using h

/-- every row `normalize_and_validate` lets through (and possibly rewrites) has a token name and a field value.
The proof follows the function's own case tree (`fun_induction`): three cases emit a row - the caller's, or one whose value
has been replaced by a run of digits or by `chunked` -, one drops a repeated Content-Length, the others reject. -/
theorem normalizeReq_wf (seen : Option Bytes) (sawTE : Bool) (hs0 hs : List Header)
    (h : normalizeReq seen sawTE hs0 = some hs) :
    ∀ x ∈ hs, x.1 ≠ [] ∧ x.1.all isTokenChar = true ∧ validFieldValue x.2 = true := by
  fun_induction normalizeReq seen sawTE hs0 generalizing hs
  case case1 => cases h; simp
  case case3 =>
    rename_i hg _ _ _ _ _ hone ih
    exact forall_of_map_cons h ⟨(rowOK_of_guard hg).1, (rowOK_of_guard hg).2.1, digits_valid _ (Bool.and_eq_true_iff.mp hone).2⟩ ih
  case case4 => rename_i ih; exact ih hs h
  case case9 =>
    rename_i hg _ _ _ _ hch ih
    refine forall_of_map_cons h ⟨(rowOK_of_guard hg).1, (rowOK_of_guard hg).2.1, ?_⟩ ih
    show validFieldValue (lower _) = true
    rw [hch]; decide
  case case11 => rename_i hg _ _ _ ih; exact forall_of_map_cons h (rowOK_of_guard hg) ih
  all_goals cases h

theorem h11Request_wellformed (r : Req) (hs : List Header) (h : h11Request r = some hs) : WellFormed r.method r.target hs := by
  unfold h11Request at h
  split at h
  · cases h
  · next hs' hn =>
    simp only [Option.ite_none_left_eq_some, Option.some.injEq, Bool.not_eq_true', Bool.not_eq_false, Bool.and_eq_true,
      bne_iff_ne, ne_eq] at h
    obtain ⟨-, hm, ht, rfl⟩ := h
    exact ⟨hm.1, hm.2, ht.1, ht.2, normalizeReq_wf _ _ _ _ hn⟩

/-- **C03.accepted_head_roundtrip** - the round trip for exactly the requests h11 accepts: if `h11.Request(method, target, headers)`
succeeds with the normalised header list `hs`, the bytes httpcore then writes parse back to that method, target and header list
(Host first), whatever follows them on the wire.  (What h11 *rewrites* - a Content-Length list collapsed to one value, the
Transfer-Encoding value lower-cased: findings F-C03-b - is visible in `hs`.) -/
theorem accepted_head_roundtrip (r : Req) (hs : List Header) (rest : Bytes) (h : h11Request r = some hs) :
    parseRequestHead (writeHead r.method r.target hs ++ rest) = some ⟨r.method, r.target, hostFirst hs, rest⟩ :=
  head_roundtrip _ _ _ _ (h11Request_wellformed r hs h)

/-- non-vacuity: a concrete accepted request with Host not in first position -/
example : h11Request { method := ascii "POST", target := ascii "/a?b", headers := [(ascii "X-A", ascii "1 2"), (ascii "Host", ascii "h"),
    (ascii "Content-Length", ascii "3")] } = some [(ascii "X-A", ascii "1 2"), (ascii "Host", ascii "h"), (ascii "Content-Length", ascii "3")] := by
  decide +kernel

end Httpcore.C03P
