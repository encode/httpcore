import HttpcoreModel.Props.Wrap
import HttpcoreModel.Lemmas.PoolPass
/-!
# C04 — The connection limit is never exceeded (pool-pass theorems)

The house-keeping loop only removes connections, with or without an adversary (`cleanup_sublist`, `cleanupAdv_sublist`); the
assignment loop appends one only when there is room or in place of a member it has just removed (`length_erase_append_le`).
-/
namespace Httpcore.C04
open Httpcore.Pool

theorem cleanupAdv_sublist (snap : List Conn) (ds : List D1) (cur : List Conn) (closing : List (Conn × Reason)) :
    (cleanupAdv snap ds cur closing).1.Sublist cur := by
  fun_induction cleanupAdv snap ds cur closing with
  | case1 | case2 => exact .refl _
  | case3 _ _ _ _ _ ih | case4 _ _ _ _ _ ih => exact ih.trans List.erase_sublist
  | case5 _ _ _ _ _ ih => exact ih

theorem length_erase_append_le {l : List Conn} {i x : Conn} {n : Nat} (hi : i ∈ l) (h : l.length ≤ n) :
    (l.erase i ++ [x]).length ≤ n := by
  have := List.length_pos_of_mem hi
  simp [List.length_erase_of_mem hi]
  omega

theorem assignOneAdv_len (cfg : Cfg) (s : State) (o : Nat) (d : D2) (h : s.conns.length ≤ cfg.maxConn) :
    (assignOneAdv cfg s o d).conns.length ≤ cfg.maxConn := by
  fun_cases assignOneAdv cfg s o d
  · exact h
  · simp; omega
  · exact length_erase_append_le ‹_› h
  · exact h
  · exact h

theorem assignAllAdv_len (cfg : Cfg) (s : State) (os : List Nat) (ds : List D2)
    (h : s.conns.length ≤ cfg.maxConn) : (assignAllAdv cfg s os ds).conns.length ≤ cfg.maxConn := by
  fun_induction assignAllAdv cfg s os ds with
  | case1 | case2 => exact h
  | case3 s o os d ds ih => exact ih (assignOneAdv_len cfg s o d h)

/-- **C04.pass_bound (adversarial)** — one assignment pass never takes the pool above its
connection limit, *whatever* the connections answer to each individual status read (closed /
expired / idle / available may change between any two reads, as under threads), for every limit,
every number of queued requests and every mix of origins. -/
theorem pass_bound_adversarial (cfg : Cfg) (s : State) (ds1 : List D1) (origins : List Nat)
    (ds2 : List D2) (h : s.conns.length ≤ cfg.maxConn) :
    (passAdv cfg s ds1 origins ds2).conns.length ≤ cfg.maxConn :=
  assignAllAdv_len cfg _ origins ds2 (Nat.le_trans (cleanupAdv_sublist s.conns ds1 s.conns []).length_le h)

theorem assignOne_len (cfg : Cfg) (s : State) (r : Req) (h : s.conns.length ≤ cfg.maxConn) :
    (assignOne cfg s r).1.conns.length ≤ cfg.maxConn := by
  rcases assignOne_cases cfg s r with ⟨_, _, e⟩ | ⟨_, hroom, e⟩ | ⟨_, _, i, hi, e⟩ | ⟨_, _, _, e⟩ <;> rw [e]
  · exact h
  · simp [created]; omega
  · exact length_erase_append_le (mem_freeIdle.mp (List.mem_of_mem_head? hi)).1 h
  · exact h

/-- **C04.pass_bound** — the same for the pass as the single-threaded (async) pool executes it. -/
theorem pass_bound (cfg : Cfg) (s : State) (h : s.conns.length ≤ cfg.maxConn) :
    (pass cfg s).conns.length ≤ cfg.maxConn :=
  assignAll_induct cfg (I := fun s _ _ => s.conns.length ≤ cfg.maxConn) (fun _ _ _ _ _ h => h)
    (fun s r _ _ _ h => assignOne_len cfg s r h) (fun _ _ h => h) _ s.reqs []
    (Nat.le_trans (cleanup_sublist cfg _ s.conns s.conns []).length_le h)

/-- **C04.wait_not_open** — a queued request that finds the pool at its limit with no available
connection for its origin and no idle connection that is not spoken for stays queued, and no connection is created. -/
theorem wait_not_open (cfg : Cfg) (s : State) (r : Req)
    (hfull : ¬ s.conns.length < cfg.maxConn)
    (hav : s.conns.filter (fun c => c.origin == r.origin && c.available) = [])
    (hidle : s.conns.filter (fun c => c.idle && !(isReserved s.reserved c)) = []) :
    assignOne cfg s r = (s, r) := by
  simp [assignOne, hav, hidle, hfull]

/-- a connection is created only when there is room, or an idle one is evicted first -/
theorem create_only_with_room (cfg : Cfg) (s : State) (r : Req)
    (hgrow : s.conns.length < (assignOne cfg s r).1.conns.length) : s.conns.length < cfg.maxConn := by
  rcases assignOne_cases cfg s r with ⟨_, _, e⟩ | ⟨_, hroom, _⟩ | ⟨_, _, i, hi, e⟩ | ⟨_, _, _, e⟩
  · exact absurd (e ▸ hgrow) (Nat.lt_irrefl _)
  · exact hroom
  · exact absurd (e ▸ hgrow) (Nat.not_lt.mpr
      (length_erase_append_le (mem_freeIdle.mp (List.mem_of_mem_head? hi)).1 (Nat.le_refl _)))
  · exact absurd (e ▸ hgrow) (Nat.lt_irrefl _)

/-! non-vacuity: a full pool of two with three waiters stays at two -/
def cfg2 : Cfg := { maxConn := 2, maxKeepalive := 2, newAvail := fun _ => false, countIdleOnly := false, protectAssigned := false }
def s2 : State :=
  { conns := [Conn.mk 0 7 false false false false],
    reqs := [Req.mk 0 1 none, Req.mk 1 2 none, Req.mk 2 3 none], closing := [], nextId := 1 }
example : (pass cfg2 s2).conns.length = 2 ∧ ((pass cfg2 s2).reqs.filter (·.conn.isNone)).length = 2 := by decide

end Httpcore.C04
