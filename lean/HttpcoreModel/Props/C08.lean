import HttpcoreModel.Props.C08Global
import HttpcoreModel.Props.C04
import HttpcoreModel.Props.C05
import HttpcoreModel.Props.C01
import HttpcoreModel.Props.C09
/-!
# C08 — The synchronous pool is thread-safe

Threads interleave at every instruction, but everything the pool does to its own lists happens under one lock
(`pool_mutations_locked`, regenerated from the source), and a connection's ACTIVE gate is taken under its state lock; what
other threads can still change between two reads of a pass are the *status bits* of connections. The theorems therefore
quantify over (a) every interleaving of the atomic actions of `Sys`, (b) every adversarial answer to every status read
inside a pass.
-/
namespace Httpcore.C08
open Httpcore Httpcore.Pool

/-- **C08.pool_mutations_locked** — every statement that mutates `_connections` / `_requests` or runs the assignment pass is
inside `with self._optional_thread_lock:` (or inside the pass, all of whose call sites are). -/
theorem pool_mutations_locked : ∀ m ∈ Gen.poolMutations, m.2.2 = true := by decide

/-- **C08.establishment_single** — in each of the three connection classes that establish lazily (direct, SOCKS, CONNECT tunnel) the
"already established?" test is made with the connect lock held (regenerated): of several threads that share a connection that is
not established yet, exactly one establishes it; the others find it established (or failed) when they get the lock. -/
theorem establishment_single : ∀ r ∈ Gen.establishChecks, r.2 = true := by decide

/-- **C08.reader_rechecks_under_lock** (also C12) - the HTTP/2 reader decides "nothing has been filed for my stream, read the
network" *inside* the read lock, and reads the network nowhere else: a thread / task that waited for the lock while another one read
and filed its frames sees them, instead of reading again and waiting for bytes that have already arrived (Tie A, regenerated). -/
theorem reader_rechecks_under_lock : Gen.h2EventsRecheckedUnderReadLock = true := rfl

/-- **C08.writer_takes_and_writes_under_lock** (also C03, C12) - h2's outgoing buffer is emptied and its content written inside one
hold of the write lock, and nowhere else: two threads / tasks cannot put their frames on the wire in another order than the one in
which h2 produced them (the peer's HPACK decoder and its stream state machine depend on that order).  Tie A, regenerated. -/
theorem writer_takes_and_writes_under_lock : Gen.h2BufferWrittenUnderWriteLock = true := rfl

example : Gen.establishChecks.length = 3 := by decide

/-- **C08.limit_under_threads** — the connection limit holds after a pass even if every status bit a pass reads
(closed / expired / idle / available) is answered adversarially at every single read, i.e. whatever other threads do to the
connections meanwhile (re-export of C04). -/
theorem limit_under_threads (cfg : Cfg) (s : State) (ds1 : List D1) (origins : List Nat) (ds2 : List D2)
    (h : s.conns.length ≤ cfg.maxConn) : (passAdv cfg s ds1 origins ds2).conns.length ≤ cfg.maxConn :=
  C04.pass_bound_adversarial cfg s ds1 origins ds2 h

/-- **C08.exclusive_use_all_interleavings** — for every interleaving of callers' atomic steps, at most one caller is inside an
exchange on a connection (re-export of C01 over `Sys`, whose `run` ranges over all action sequences). -/
theorem exclusive_use_all_interleavings (as : List Sys.Action) (h : ∀ a ∈ as, Sys.Admissible a) (c t1 t2 : Nat)
    (h1 : ((Sys.run C05.current Sys.init as).tasks t1).pc = .io c ∨ ((Sys.run C05.current Sys.init as).tasks t1).pc = .closing c)
    (h2 : ((Sys.run C05.current Sys.init as).tasks t2).pc = .io c ∨ ((Sys.run C05.current Sys.init as).tasks t2).pc = .closing c) :
    t1 = t2 := C01.exclusive_use as h c t1 t2 h1 h2

/-- **C08.close_marks_closed_first** — the lock-free `close()` of an HTTP/1.1 connection marks it CLOSED before it touches the
socket (regenerated from the source). The gate runs under the state lock but `close()` does not: this order is what makes a
thread that reaches the gate after another thread began closing get ConnectionNotAvailable (and a fresh connection) instead of
a socket that is being closed under it. -/
theorem close_marks_closed_first : Gen.h1CloseMarksClosedFirst = true := rfl

/-- **C08.retire_only_unassigned** — a pass closes a connection as surplus or as abandoned, or evicts one to make room, only if no request
has been handed that connection (`reserved` = the connections assigned before the pass plus those assigned in it): a thread
that has been given an idle connection and has not started on it yet cannot have it closed under it by another thread's pass.
(Expired connections are still closed; the request then finds CLOSED at the gate - `close_marks_closed_first`.) -/
theorem retire_only_unassigned (cfg : Cfg) (hfix : cfg.countIdleOnly = true) (res : List Nat) (s : State) (r : Req) :
    (∀ e ∈ (cleanup cfg res s.conns s.conns []).2, e.2 ≠ .expired → isReserved res e.1 = false) ∧
    ((assignOne cfg s r).1.closing = s.closing ∨
      ∃ i, (assignOne cfg s r).1.closing = s.closing ++ [(i, .room)] ∧ isReserved s.reserved i = false) := by
  constructor
  · intro e he hne
    rcases C09.close_reasons cfg hfix res s e he with h | ⟨k, _, _, h3, _⟩ | ⟨_, _, h3⟩
    · exact absurd h.1 hne
    · exact h3
    · exact h3
  · rcases C09.eviction_reason cfg s r with h | ⟨i, h1, _, _, h4, _⟩
    · exact Or.inl h
    · exact Or.inr ⟨i, h1, h4⟩

/-- a request that is handed an available connection reserves it for the rest of the pass -/
theorem assignment_reserves (cfg : Cfg) (hp : cfg.protectAssigned = true) (s : State) (r : Req) (c : Conn) (tl : List Conn)
    (hav : s.conns.filter (fun c => c.origin == r.origin && c.available) = c :: tl) :
    isReserved (assignOne cfg s r).1.reserved c = true := by
  simp [assignOne, hav, hp, isReserved]

/-- the current source protects assigned connections (regenerated) -/
theorem source_protects_assigned : Gen.poolProtectsAssigned = true := rfl

def demoCfg (protect : Bool) : Cfg :=
  { maxConn := 1, maxKeepalive := 1, newAvail := fun _ => false, countIdleOnly := true, protectAssigned := protect }
def demoState : State :=
  { conns := [{ id := 0, origin := 0, closed := false, expired := false, idle := true, available := true }],
    reqs := [{ id := 0, origin := 0, conn := none }, { id := 1, origin := 1, conn := none }], closing := [], nextId := 1 }

/-- **finding F-C08-a (1.0.7 behaviour; repaired)** — one pass hands the idle connection 0 to the waiting request 0 *and*
evicts that very connection to make room for request 1. In the async pool the first request then finds the connection
closed and is re-assigned; with threads it could already be sending on it when the evicting thread closed it. -/
theorem pass_assigns_and_evicts_same_connection_107 :
    (pass (demoCfg false) demoState).reqs.head?.bind (·.conn) = some 0 ∧
    ((pass (demoCfg false) demoState).closing.map (·.1.id)) = [0] := by decide

/-- the same pass with the repaired rule: request 0 gets connection 0, nothing is closed, request 1 waits its turn -/
theorem pass_keeps_assigned_connection :
    (pass (demoCfg true) demoState).reqs.map (·.conn) = [some 0, none] ∧ (pass (demoCfg true) demoState).closing = [] := by decide

end Httpcore.C08
