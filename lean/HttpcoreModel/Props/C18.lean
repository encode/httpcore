import HttpcoreModel.Unasync
/-!
# C18 — Sync and async APIs behave identically (the translator half)
-/
namespace Httpcore.C18
open Httpcore Httpcore.Unasync

/-- **C18.file_is_linewise** — the translation of a file has exactly as many lines as the file, and its i-th line is
the translation of the i-th line alone. Hence "`_sync/x.py` is the translation of `_async/x.py`" is decided by comparing
*all* lines and the *line counts* - which is what the correspondence check does and what `unasync.py --check`
(zip up to the shorter file) does not. -/
theorem file_is_linewise (t : List Pat) (lines : List (List Char)) :
    (unasyncFile t lines).length = lines.length ∧
    ∀ i (h : i < lines.length), (unasyncFile t lines)[i]? = some (unasyncLine t lines[i]) :=
  ⟨by simp [unasyncFile], fun i h => by simp [unasyncFile, h]⟩

theorem file_append (t : List Pat) (a b : List (List Char)) :
    unasyncFile t (a ++ b) = unasyncFile t a ++ unasyncFile t b := by
  simp [unasyncFile]

/-- a file with extra (or missing) trailing lines is never the translation, whatever the lines are -/
theorem extra_lines_detected (t : List Pat) (lines extra : List (List Char)) (h : extra ≠ []) :
    unasyncFile t lines ≠ unasyncFile t lines ++ extra ∧ (unasyncFile t (lines ++ extra)).length ≠ (unasyncFile t lines).length :=
  ⟨fun heq => h (by simpa using congrArg List.length heq), by simpa [unasyncFile] using h⟩

/-! ## lines the translator leaves alone -/

theorem matchAt_none_of_not_prefix (p : Pat) (prev : Option Char) (s : List Char)
    (h : matchPrefix (core p) s = none) : matchAt p prev s = none := by
  cases p <;> simp_all [matchAt, core]

theorem subFrom_id (p : Pat) (fuel : Nat) (prev : Option Char) (s : List Char) (h : occurs (core p) s = false) :
    subFrom p fuel prev s = s := by
  fun_induction subFrom p fuel prev s with
  | case1 | case2 => rfl
  | case3 fuel prev c cs out rest pv hm ih =>
    simp only [occurs, Bool.or_eq_false_iff] at h
    rw [matchAt_none_of_not_prefix p prev _ (by simpa using h.1)] at hm
    cases hm
  | case4 fuel prev c cs hm ih =>
    simp only [occurs, Bool.or_eq_false_iff] at h
    rw [ih h.2]

/-- **C18.untouched_line** — a line in which no pattern's character sequence occurs is copied unchanged, for every line
and every table: code that never mentions `async`/`await`/`Async…`/`aclose`/… is identical in both packages, so a
change to such a line on one side only is always a difference. -/
theorem untouched_line (t : List Pat) (line : List Char) (h : ∀ p ∈ t, occurs (core p) line = false) :
    unasyncLine t line = line :=
  List.foldlRecOn t _ (motive := (· = line)) rfl fun l hl p hp => by
    subst hl; exact subFrom_id p _ none _ (h p hp)

/-- the regenerated table lies in the modelled fragment and has the shape the model was validated with:
19 patterns, the class-name pattern in fourth place -/
theorem table_shape : table.length = 19 ∧ table[3]? = some .asyncClass := by decide

/-! non-vacuity / examples on the regenerated table -/
set_option maxRecDepth 20000 in
example : unasyncLine table "async def aclose(self) -> AsyncIterator[AsyncFoo]: await self.x.aclose()\n".toList
    = "def close(self) -> Iterator[Foo]: self.x.close()\n".toList := by decide +kernel
example : occurs (core (.lit ("await ".toList.map some) [])) "x = 1\n".toList = false := by decide

end Httpcore.C18
