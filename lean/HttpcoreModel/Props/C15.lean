import HttpcoreModel.ExcSurface
import HttpcoreModel.H1Obs
/-!
# C15 — Only documented exception types reach the caller
-/
namespace Httpcore.C15
open Httpcore Httpcore.Surf

/-- **C15.backend_maps_documented** — every class that a back end's exception maps can produce
(sync, anyio, trio; every method) is a documented httpcore exception. Decided over the maps
regenerated from the source. -/
theorem backend_maps_documented :
    Gen.backendExcMaps.all (fun row => row.2.2.2.all (fun kv => documented kv.2)) = true := by decide

def classesFor (method : String) : List Exc :=
  if method = "read" then [.ReadTimeout, .ReadError]
  else if method = "write" then [.WriteTimeout, .WriteError]
  else [.ConnectTimeout, .ConnectError]

def isTimeout (e : Exc) : Bool := e = .ReadTimeout || e = .WriteTimeout || e = .ConnectTimeout

/-- **C15.backend_maps_match_operation** — in every back end a failed or timed-out connect / TLS
start maps to ConnectError / ConnectTimeout, a read to ReadError / ReadTimeout, a write to
WriteError / WriteTimeout; and every map has an entry for time-outs and one for errors. -/
theorem backend_maps_match_operation :
    Gen.backendExcMaps.all (fun row =>
      row.2.2.2.all (fun kv => (classesFor row.2.2.1).contains kv.2) &&
      row.2.2.2.any (fun kv => isTimeout kv.2) && row.2.2.2.any (fun kv => !isTimeout kv.2)) = true := by decide

/-- every `map_exceptions` site converts a protocol library's exception into the documented class
of the matching direction: remote violations to RemoteProtocolError, local ones to LocalProtocolError,
deadline of the pool wait to PoolTimeout -/
theorem map_sites_direction :
    Gen.mapSites.all (fun s =>
      documented s.2.2.2 &&
      (if s.2.2.1 = "h11.RemoteProtocolError" || s.2.2.1 = "h2.exceptions.ProtocolError" || s.2.2.1 = "socksio.ProtocolError"
       then s.2.2.2 = .RemoteProtocolError
       else if s.2.2.1 = "h11.LocalProtocolError" then s.2.2.2 = .LocalProtocolError
       else s.2.2.2 = .PoolTimeout)) = true := by decide

theorem backendClasses_documented (s : Stage) : ∀ e ∈ backendClasses s, documented e = true := by
  cases s <;> decide

/-- row by row through the table: the class is determined by the cause, and a back-end exception
is passed on only if it is one the stage's operation can raise -/
theorem surface_some (s : Stage) (c : Cause) (e : Exc) : surface s c = some e →
    match c with
    | .backend b => e = b ∧ b ∈ backendClasses s
    | .peerMalformed | .peerClosed => e = .RemoteProtocolError
    | .callerInvalid => e = .LocalProtocolError
    | .proxyRefused => e = .ProxyError
    | .poolDeadline => e = .PoolTimeout
    | .unsupportedScheme => e = .UnsupportedProtocol := by
  fun_cases surface s c <;> intro h <;> cases h
  case case5 hm => exact ⟨rfl, hm⟩  -- the general back-end row
  all_goals rfl

/-- **C15.documented_only** — for every stage and every cause, the class that reaches the caller
is a documented httpcore exception. -/
theorem documented_only (s : Stage) (c : Cause) (e : Exc) (h : surface s c = some e) : documented e = true := by
  have := surface_some s c e h
  cases c with
  | backend b => rw [this.1]; exact backendClasses_documented s b this.2
  | _ => rw [this]; rfl

/-- **C15.class_matches_cause** — malformed or prematurely ended peer data gives
RemoteProtocolError; an invalid request from the caller gives LocalProtocolError; a proxy's refusal
ProxyError; a pool deadline PoolTimeout; an unsupported scheme UnsupportedProtocol; a failed or
timed-out back-end operation the very class the back end raised. -/
theorem class_matches_cause (s : Stage) (c : Cause) (e : Exc) (h : surface s c = some e) :
    match c with
    | .backend b => e = b
    | .peerMalformed => e = .RemoteProtocolError
    | .peerClosed => e = .RemoteProtocolError
    | .callerInvalid => e = .LocalProtocolError
    | .proxyRefused => e = .ProxyError
    | .poolDeadline => e = .PoolTimeout
    | .unsupportedScheme => e = .UnsupportedProtocol := by
  have := surface_some s c e h
  cases c with
  | backend b => exact this.1
  | _ => exact this

/-- the table is not vacuous: every receive stage handles malformed and closed peers, every send
stage an invalid request -/
theorem surface_total :
    (∀ s ∈ [Stage.h1RecvHead, .h1RecvBody, .h2RecvHead, .h2RecvBody, .proxyConnect, .socksNegotiation],
      surface s .peerMalformed ≠ none ∧ surface s .peerClosed ≠ none) ∧
    (∀ s ∈ [Stage.h1Send, .h2Send], surface s .callerInvalid ≠ none) := by decide

/-- **C15.terminates_on_eof** — in the reader model a call never stays pending once its input has
ended: after end of file the outcome is decided (complete or an error), for every byte stream and
every segmentation. (`readAll` is a total function: its evaluation itself always terminates.) -/
theorem terminates_on_eof (ri : H1.ReqInfo) (segs : List Bytes) :
    (H1.readAll ri segs).1.outcome ≠ .pending := by
  simp only [H1.readAll, H1.atEof]
  split
  · split <;> simp
  · rename_i h; exact h

end Httpcore.C15
