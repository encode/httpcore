import HttpcoreModel.H2
/-!
# C14 — A request is put on the wire at most once unless the server refused it
-/
namespace Httpcore.C14
open Httpcore Httpcore.H2

/-- what the regenerated GOAWAY test computes; `sid ≠ 0` is implied -/
theorem goawayOutcome_eq_cna (sid last : Nat) :
    goawayOutcome sid last = .connectionNotAvailable ↔ last ≠ 0 ∧ last < sid := by
  simp [goawayOutcome, Gen.goawayRetry]
  omega

/-- **C14.goaway_retry_only_refused** — after a GOAWAY a request is handed back for re-sending only if its stream id is
above the last-stream-id the server named, i.e. the server declared not to have processed it (for all ids). -/
theorem goaway_retry_only_refused (sid last : Nat) (h : goawayOutcome sid last = .connectionNotAvailable) : sid > last :=
  ((goawayOutcome_eq_cna sid last).mp h).2

/-- a stream at or below the last-stream-id fails towards the caller (it may have been processed) -/
theorem goaway_processed_not_retried (sid last : Nat) (h : sid ≤ last) : goawayOutcome sid last = .remoteProtocolError := by
  cases hg : goawayOutcome sid last with
  | remoteProtocolError => rfl
  | connectionNotAvailable => exact absurd (goaway_retry_only_refused sid last hg) (Nat.not_lt_of_ge h)

/-- **C14.goaway_refused_resent_partial** — a refused stream is re-sent, provided the last-stream-id is not 0.
The full statement (for every last-stream-id) is false of the code: see `goaway_last_zero_not_resent`. -/
theorem goaway_refused_resent_partial (sid last : Nat) (h : sid > last) (h0 : last ≠ 0) :
    goawayOutcome sid last = .connectionNotAvailable :=
  (goawayOutcome_eq_cna sid last).mpr ⟨h0, h⟩

/-- **finding F-C14-a (proved of the regenerated expression, replayed on the implementation)** — GOAWAY with
last-stream-id 0 ("nothing was processed") refuses stream 1, yet the request is failed instead of re-sent. -/
theorem goaway_last_zero_not_resent : goawayOutcome 1 0 = .remoteProtocolError := by decide

/-- **C14.cna_sites_sound** — every place that raises ConnectionNotAvailable either precedes every statement of its
`handle_async_request` that can send request bytes, or is the GOAWAY rule above (table regenerated from the source). -/
theorem cna_sites_sound : ∀ s ∈ Gen.cnaSites, s.2.2.1 = true ∨ s.2.2.2 = true := by decide

/-- **C14.pool_retries_only_cna** — the pool sends a request again on ConnectionNotAvailable and on nothing else. -/
theorem pool_retries_only_cna : Gen.poolRetriesOn = [.ConnectionNotAvailable] := by decide

/-- what the per-connection code guarantees about one attempt (by `cna_sites_sound` and `goaway_retry_only_refused`) -/
def AttemptSound (a : Attempt) : Prop := a.result = .notAvailable → (a.wrote = false ∨ a.refused = true)

/-- attempts that put request bytes on a connection without the server refusing them -/
def exposed (as : List Attempt) : Nat := (as.filter fun a => a.wrote && !a.refused).length

theorem mem_dropLast_cons {α} {x a : α} {l : List α} (h : x ∈ (a :: l).dropLast) :
    x = a ∨ x ∈ l.dropLast := by
  cases l <;> simp_all

/-- **C14.at_most_once** — for every sequence of attempts the connections can produce: the request is exposed to a
server (written and not refused) on at most one connection, and every attempt but the last ended in
ConnectionNotAvailable; in particular a failure after bytes were written ends the call. -/
theorem at_most_once (as : List Attempt) (h : ∀ a ∈ as, AttemptSound a) :
    exposed (attemptsUsed as) ≤ 1 ∧
    (∀ a ∈ (attemptsUsed as).dropLast, a.result = .notAvailable ∧ (a.wrote = false ∨ a.refused = true)) := by
  fun_induction attemptsUsed as with
  | case1 => simp [exposed]
  | case2 a rest hna ih =>
    have ⟨ih1, ih2⟩ := ih fun x hx => h x (List.mem_cons_of_mem _ hx)
    have hs := h a List.mem_cons_self hna
    constructor
    · -- `a` is not exposed, so the count is that of the later attempts
      have : (a.wrote && !a.refused) = false := by rcases hs with h1 | h1 <;> simp [h1]
      simpa [exposed, List.filter_cons, this] using ih1
    · intro x hx
      rcases mem_dropLast_cons hx with rfl | hx
      · exact ⟨hna, hs⟩
      · exact ih2 x hx
  | case3 a rest hna =>
    simp [exposed, List.filter_cons]
    split <;> simp

/-- a failure (anything but ConnectionNotAvailable) ends the call: no attempt follows it -/
theorem failure_ends_call (a : Attempt) (rest : List Attempt) (h : a.result ≠ .notAvailable) :
    attemptsUsed (a :: rest) = [a] := by
  simp [attemptsUsed, h]

/-! non-vacuity -/
example : attemptsUsed [⟨0, false, false, .notAvailable⟩, ⟨1, true, true, .notAvailable⟩, ⟨2, true, false, .failed⟩, ⟨3, true, false, .response⟩]
    = [⟨0, false, false, .notAvailable⟩, ⟨1, true, true, .notAvailable⟩, ⟨2, true, false, .failed⟩] := by decide
example : goawayOutcome 5 3 = .connectionNotAvailable ∧ goawayOutcome 3 3 = .remoteProtocolError := by decide

end Httpcore.C14
