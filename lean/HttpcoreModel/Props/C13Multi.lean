import HttpcoreModel.H2
/-!
# C13 — several uploads sharing one connection window
Each stream runs the send loop of `H2.sendData`; here their steps interleave arbitrarily with each other and with the
server's updates. One step of stream `i` is exactly one iteration of `_send_stream_data`: wait if the usable window is not
positive, otherwise send `min(len, min(stream window, connection window, max frame))` bytes.
-/
namespace Httpcore.C13
open Httpcore Httpcore.H2

structure Up where
  win : Int                 -- stream window
  sent : List Nat           -- payload bytes handed to h2 so far, in order
  todo : List Nat           -- not yet sent
  deriving Repr

structure MState where
  connWin : Int
  maxFrame : Nat
  ups : List Up
  credit : Nat              -- ghost: sum of connection-level WINDOW_UPDATE increments received
  deriving Repr

inductive MStep
  | send (i : Nat)                          -- stream i performs one iteration of its send loop
  | connUpdate (n : Nat)
  | streamUpdate (i : Nat) (n : Nat)
  | initialWindowDelta (d : Int)            -- SETTINGS_INITIAL_WINDOW_SIZE: every stream window changes by d
  | maxFrame (n : Nat)
  deriving Repr

def usable (s : MState) (u : Up) : Int := min (min u.win s.connWin) s.maxFrame

def sendStep (s : MState) (u : Up) : Up × Nat :=
  if Gen.flowWaits (usable s u) then (u, 0)
  else
    let n := min u.todo.length (usable s u).toNat
    ({ win := u.win - n, sent := u.sent ++ u.todo.take n, todo := u.todo.drop n }, n)

def setAt {α} (l : List α) (i : Nat) (v : α) : List α := l.set i v

def mstep (s : MState) : MStep → MState
  | .send i =>
    match s.ups[i]? with
    | none => s
    | some u =>
      let r := sendStep s u
      { s with ups := setAt s.ups i r.1, connWin := s.connWin - r.2 }
  | .connUpdate n => { s with connWin := s.connWin + n, credit := s.credit + n }
  | .streamUpdate i n =>
    match s.ups[i]? with
    | none => s
    | some u => { s with ups := setAt s.ups i { u with win := u.win + n } }
  | .initialWindowDelta d => { s with ups := s.ups.map fun u => { u with win := u.win + d } }
  | .maxFrame n => { s with maxFrame := n }

def mrun (s : MState) (steps : List MStep) : MState := steps.foldl mstep s

def totalSent (s : MState) : Nat := (s.ups.map fun u => u.sent.length).sum

theorem sendStep_le_conn (s : MState) (u : Up) (hc : 0 ≤ s.connWin) : ((sendStep s u).2 : Int) ≤ s.connWin := by
  unfold sendStep
  split
  · exact hc
  · rename_i h
    exact (chunk_bounds ⟨u.win, s.connWin, s.maxFrame⟩ _ (Bool.eq_false_iff.mpr h)).2.2.1

theorem sendStep_sent (s : MState) (u : Up) :
    (sendStep s u).1.sent.length = u.sent.length + (sendStep s u).2 ∧
    (sendStep s u).1.sent ++ (sendStep s u).1.todo = u.sent ++ u.todo := by
  unfold sendStep
  split
  · simp
  · simp only [List.length_append, List.length_take, List.append_assoc, List.take_append_drop, and_true]
    omega

/-! `mstep` changes the list of uploads in two ways only: every entry (`map`), or the entry at one index (`setAt`) -/

theorem map_setAt_of_eq {α β} (f : α → β) {l : List α} {i : Nat} {u v : α} (hu : l[i]? = some u) (hv : f v = f u) :
    (setAt l i v).map f = l.map f := by
  obtain ⟨hlt, rfl⟩ := List.getElem?_eq_some_iff.mp hu
  rw [setAt, List.map_set, hv, ← List.getElem_map f (h := by simpa using hlt), List.set_getElem_self]

theorem sum_map_setAt {α} (f : α → Nat) {l : List α} {i : Nat} {u : α} (v : α) (hu : l[i]? = some u) :
    ((setAt l i v).map f).sum + f u = (l.map f).sum + f v := by
  obtain ⟨hlt, rfl⟩ := List.getElem?_eq_some_iff.mp hu
  rw [setAt, List.set_eq_take_append_cons_drop, if_pos hlt]
  conv => rhs; rw [← List.take_append_drop i l, List.drop_eq_getElem_cons hlt]
  simp only [List.map_append, List.map_cons, List.sum_append_nat, List.sum_cons]
  omega

/-- what is preserved: the connection window never goes negative, and bytes sent + window left = initial window +
connection-level credit received -/
structure MInv (w0 : Int) (s : MState) : Prop where
  nonneg : 0 ≤ s.connWin
  conserve : (totalSent s : Int) + s.connWin = w0 + s.credit

theorem mstep_inv (w0 : Int) (s : MState) (st : MStep) (h : MInv w0 s) : MInv w0 (mstep s st) := by
  obtain ⟨h1, h2⟩ := h
  unfold totalSent at h2
  -- the cases of `mstep` in its order: 2 and 5 are `send` and `streamUpdate` at an index that holds an upload (1 and 4: it does not)
  fun_cases mstep s st with
  | case2 i u hu =>
    have hle := sendStep_le_conn s u h1
    have hs := (sendStep_sent s u).1
    have hsum := sum_map_setAt (·.sent.length) (sendStep s u).1 hu
    exact ⟨by simp +zetaDelta only []; omega, by simp +zetaDelta only [totalSent]; omega⟩
  | case3 n => exact ⟨by simp only []; omega, by simp only [totalSent]; omega⟩
  | case5 i n u hu =>
    refine ⟨h1, ?_⟩
    simp only [totalSent]
    rw [map_setAt_of_eq _ hu]
    · exact h2
    · rfl
  | case6 d => exact ⟨h1, by simp only [totalSent, List.map_map]; exact h2⟩
  | _ => exact ⟨h1, h2⟩

theorem mrun_inv (w0 : Int) (s : MState) (steps : List MStep) (h : MInv w0 s) : MInv w0 (steps.foldl mstep s) :=
  List.foldlRecOn steps mstep h fun s h st _ => mstep_inv w0 s st h

/-- **C13.shared_window_respected** — any number of uploads on one connection, their send-loop iterations interleaved in
any order with WINDOW_UPDATEs, INITIAL_WINDOW_SIZE changes (up or down) and MAX_FRAME_SIZE changes: the connection window
never goes negative, and the bytes sent by all streams together never exceed the initial connection window plus the
connection-level credit the server has granted. -/
theorem shared_window_respected (s : MState) (steps : List MStep) (h0 : 0 ≤ s.connWin) (hc : s.credit = 0)
    (hs : totalSent s = 0) :
    0 ≤ (mrun s steps).connWin ∧ (totalSent (mrun s steps) : Int) ≤ s.connWin + (mrun s steps).credit := by
  obtain ⟨h1, h2⟩ : MInv s.connWin (mrun s steps) := mrun_inv _ s steps ⟨h0, by simp [hs, hc]⟩
  exact ⟨h1, by omega⟩

def Up.body (u : Up) : List Nat := u.sent ++ u.todo

theorem mstep_bodies (s : MState) (st : MStep) : (mstep s st).ups.map Up.body = s.ups.map Up.body := by
  fun_cases mstep s st with
  | case2 i u hu => exact map_setAt_of_eq _ hu (sendStep_sent s u).2
  | case5 i n u hu => exact map_setAt_of_eq _ hu rfl
  | case6 d => simp only [List.map_map]; rfl
  | _ => rfl

theorem mrun_bodies (s : MState) (steps : List MStep) : (mrun s steps).ups.map Up.body = s.ups.map Up.body :=
  List.foldlRecOn (motive := fun t => t.ups.map Up.body = s.ups.map Up.body) steps mstep rfl
    fun t h st _ => (mstep_bodies t st).trans h

/-- **C13.each_upload_in_order** — in every such interleaving, what a stream has sent followed by what it has still to send
is always exactly its body: nothing lost, duplicated or reordered, and no byte of another stream's body. -/
theorem each_upload_in_order (s : MState) (steps : List MStep) (i : Nat) (u : Up) (h : s.ups[i]? = some u) :
    ∃ u', (mrun s steps).ups[i]? = some u' ∧ u'.sent ++ u'.todo = u.sent ++ u.todo := by
  have := congrArg (·[i]?) (mrun_bodies s steps)
  simp only [List.getElem?_map, h, Option.map_some, Option.map_eq_some_iff] at this
  exact this

/-! non-vacuity: two uploads of 5 and 4 bytes against a connection window of 6 -/
example : (mrun { connWin := 6, maxFrame := 4, credit := 0,
                  ups := [{ win := 10, sent := [], todo := [1, 2, 3, 4, 5] }, { win := 10, sent := [], todo := [6, 7, 8, 9] }] }
    [.send 0, .send 1, .send 0, .connUpdate 3, .send 1, .send 0]).ups.map (·.sent) = [[1, 2, 3, 4, 5], [6, 7, 8, 9]] := by
  decide

end Httpcore.C13
