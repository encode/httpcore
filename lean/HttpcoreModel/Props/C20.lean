import HttpcoreModel.Backoff
/-!
# C20 — Connection retries are bounded and limited to establishment

Property theorems only.  Every theorem quantifies over *all* retry counts `n`, all outcome
scripts `outs` (any length) and both values of `tls`.
-/
namespace Httpcore.C20
open Httpcore Httpcore.Backoff

/-- the extracted tuple of retryable classes is exactly {ConnectError, ConnectTimeout} -/
theorem retryable_exact (e : Exc) :
    e ∈ Gen.retryable ↔ (e = .ConnectError ∨ e = .ConnectTimeout) := by
  cases e <;> decide

/-- the extracted give-up test is `retries_left ≤ 0` -/
theorem giveUp_exact (left : Int) : Gen.giveUp left = true ↔ left ≤ 0 := by
  simp [Gen.giveUp]

/-- The loop of `_connect` as a relation between script, trace and result: the five things that can
happen to the next outcome.  `run` computes it (`run_spec`), and every property of the loop below is
an induction over it. -/
inductive Run (tls : Bool) : Phase → Int → Nat → List (Option Exc) → List Op → Res → Prop
  | starved {ph left i} : Run tls ph left i [] [] .starved
  | connected {ph left i rest} : (ph = .tcp → tls = false) →
      Run tls ph left i (none :: rest) [ph.op] .connected
  | toTls {left i rest ops res} : tls = true → Run tls .tls left i rest ops res →
      Run tls .tcp left i (none :: rest) (.connect :: ops) res
  | raised {ph left i e rest} : (e ∈ Gen.retryable → left ≤ 0) →
      Run tls ph left i (some e :: rest) [ph.op] (.raised e)
  | retry {ph left i e rest ops res} : e ∈ Gen.retryable → 0 < left →
      Run tls .tcp (left - 1) (i + 1) rest ops res →
      Run tls ph left i (some e :: rest) (ph.op :: .sleep (delayScaled i) :: ops) res

theorem run_spec (tls : Bool) (ph : Phase) (left : Int) (i : Nat) (outs : List (Option Exc)) :
    Run tls ph left i outs (run tls ph left i outs).1 (run tls ph left i outs).2 := by
  -- the seven paths of `run`, top to bottom
  fun_induction run tls ph left i outs with
  | case1 => exact .starved
  | case2 _ _ _ ht _ ih => exact .toTls ht ih
  | case3 _ _ _ ht => exact .connected fun _ => by simpa using ht
  | case4 => exact .connected nofun
  | case5 _ _ _ _ _ _ hg => exact .raised fun _ => (giveUp_exact _).mp hg
  | case6 _ _ _ _ _ he hg _ ih => exact .retry he (by rw [giveUp_exact] at hg; omega) ih
  | case7 _ _ _ _ _ hn => exact .raised fun he => absurd he hn

theorem connect_spec (tls : Bool) (n : Nat) (outs : List (Option Exc)) :
    Run tls .tcp n 0 outs (connect tls n outs).1 (connect tls n outs).2 :=
  run_spec ..

section counts
variable (ph : Phase) (t : List Op)
@[simp] theorem nConnect_op : nConnect (ph.op :: t) = nConnect t + if ph = .tcp then 1 else 0 := by
  cases ph <;> rfl
@[simp] theorem nNet_op : nNet (ph.op :: t) = nNet t + 1 := by cases ph <;> rfl
@[simp] theorem nSleep_op : nSleep (ph.op :: t) = nSleep t := by cases ph <;> rfl
@[simp] theorem sleepsOf_op : sleepsOf (ph.op :: t) = sleepsOf t := by cases ph <;> rfl
end counts

variable {tls : Bool} {ph : Phase} {left : Int} {i : Nat} {outs : List (Option Exc)}
  {ops : List Op} {res : Res} {e : Exc}

/-- The four counters of a run's trace.  A run that starts at the TLS stage has its attempt's
`connect` behind it, hence the `if`. -/
theorem Run.counts (h : Run tls ph left i outs ops res) :
    nConnect ops ≤ (if ph = .tcp then 1 else 0) + left.toNat ∧
    sleepsOf ops = (List.range' i (nSleep ops)).map delayScaled ∧
    nNet ops ≤ outs.length ∧
    (res ≠ .starved → nConnect ops = nSleep ops + if ph = .tcp then 1 else 0) := by
  induction h <;> simp_all [nConnect, nSleep, nNet, sleepsOf, List.range'_succ] <;> omega

/-- **C20.attempts** — with `retries = n` at most `n + 1` connection attempts are made. -/
theorem attempts (tls : Bool) (n : Nat) (outs : List (Option Exc)) :
    nConnect (connect tls n outs).1 ≤ n + 1 := by
  have := (connect_spec tls n outs).counts.1
  simp at this
  omega

/-- **C20.delays (a)** — the pauses are, in order, the first `k` values of the back-off
sequence, for some `k`. -/
theorem delays_sequence (tls : Bool) (n : Nat) (outs : List (Option Exc)) :
    ∃ k, sleepsOf (connect tls n outs).1 = (List.range k).map delayScaled :=
  ⟨_, by rw [List.range_eq_range']; exact (connect_spec tls n outs).counts.2.1⟩

/-- **C20.delays (b)** — the back-off sequence is 0, 0.5, 1, 2, 4, … seconds
(`delayScaled` is in half seconds because `backoffDen = 2`). -/
theorem delays_values :
    Gen.backoffDen = 2 ∧ delayScaled 0 = 0 ∧ ∀ j, delayScaled (j + 1) = 2 ^ j := by
  refine ⟨rfl, rfl, ?_⟩
  intro j
  simp [delayScaled, Gen.backoffNum, Gen.backoffBase]

/-- **C20.delays (c)** — exactly one pause between consecutive attempts and none after the
last: whenever the loop ends (connected or raised), #pauses = #attempts − 1. -/
theorem one_pause_between_attempts (tls : Bool) (n : Nat) (outs : List (Option Exc))
    (h : (connect tls n outs).2 ≠ .starved) :
    nConnect (connect tls n outs).1
      = nSleep (connect tls n outs).1 + 1 := by
  simpa using (connect_spec tls n outs).counts.2.2.2 h

private theorem net_ops_consume (tls : Bool) (ph : Phase) (left : Int) (i : Nat)
    (outs : List (Option Exc)) :
    nNet (run tls ph left i outs).1 ≤ outs.length :=
  (run_spec ..).counts.2.2.1

theorem Run.raised_is_last (h : Run tls ph left i outs ops res) (hr : res = .raised e) :
    ∃ m, nNet ops = m + 1 ∧ outs[m]? = some (some e) := by
  induction h with
  | starved | connected => cases hr
  | raised => cases hr; exact ⟨0, by simp [nNet]⟩
  | toTls _ _ ih | retry _ _ _ ih =>
    obtain ⟨m, hm, h⟩ := ih hr
    exact ⟨m + 1, by simp [nNet, hm], h⟩

/-- **C20.last_error** — the error that `_connect` raises is the outcome of the *last* network
operation it performed (so, if all attempts fail, the last attempt's error). -/
theorem last_error (tls : Bool) (n : Nat) (outs : List (Option Exc)) (e : Exc)
    (h : (connect tls n outs).2 = .raised e) :
    outs[nNet (connect tls n outs).1 - 1]? = some (some e) := by
  obtain ⟨m, hm, h⟩ := (connect_spec tls n outs).raised_is_last h
  simpa [hm] using h

theorem Run.stops_at_nonretryable (h : Run tls ph left i outs ops res) {k : Nat}
    (hk : outs[k]? = some (some e)) (hn : e ∉ Gen.retryable) :
    nNet ops ≤ k + 1 ∧ (nNet ops = k + 1 → res = .raised e) := by
  induction h generalizing k with
  | starved => cases hk
  | connected => cases k with
    | zero => cases hk
    | succ k => simp [nNet]
  | raised => cases k with
    | zero => cases hk; simp [nNet]
    | succ k => simp [nNet]
  | toTls _ _ ih => cases k with
    | zero => cases hk
    | succ k => simpa [nNet] using ih hk
  | retry he _ _ ih => cases k with
    | zero => cases hk; exact absurd he hn
    | succ k => simpa [nNet] using ih hk

/-- **C20.only_connect_errors** — a failure whose class is not ConnectError / ConnectTimeout
(at the TCP or the TLS stage) is never followed by another network operation, and if it is
reached it is the error raised. -/
theorem only_connect_errors (tls : Bool) (n : Nat) (outs : List (Option Exc)) (k : Nat)
    (e : Exc) (hk : outs[k]? = some (some e))
    (hn : ¬ (e = .ConnectError ∨ e = .ConnectTimeout)) :
    nNet (connect tls n outs).1 ≤ k + 1 ∧
    (nNet (connect tls n outs).1 = k + 1 →
      (connect tls n outs).2 = .raised e) :=
  (connect_spec tls n outs).stops_at_nonretryable hk (by rw [retryable_exact]; exact hn)

/-- `hp`: `run` never enters the TLS stage unless `tls` is set, but its type allows it -/
theorem Run.connected_is_last (h : Run tls ph left i outs ops res) (hr : res = .connected)
    (hp : ph = .tls → tls = true) :
    ops.getLast? = some (if tls then .startTls else .connect) := by
  induction h with
  | starved | raised => cases hr
  | @connected ph _ _ _ hc => cases ph <;> simp_all [Phase.op]
  | toTls ht _ ih => simp [List.getLast?_cons, ih hr fun _ => ht]
  | retry _ _ _ ih => simp [List.getLast?_cons, ih hr nofun]

/-- **C20.never_after_established** (loop half) — once an attempt succeeds the loop stops at
once: the successful operation (TLS start when TLS is needed, the connect otherwise) is the last
one in the trace; nothing is retried afterwards. -/
theorem success_ends_loop (tls : Bool) (n : Nat) (outs : List (Option Exc))
    (h : (connect tls n outs).2 = .connected) :
    ∃ pre, (connect tls n outs).1 = pre ++ [if tls then .startTls else .connect] :=
  List.getLast?_eq_some_iff.mp ((connect_spec tls n outs).connected_is_last h nofun)

/-- **C20.all_fail** — if every operation fails with a connect error the loop makes exactly
`n + 1` attempts and raises (non-vacuity of `attempts`: the bound is reached). -/
theorem all_fail_exact (n : Nat) :
    (connect false n (List.replicate (n + 1) (some .ConnectError))).2 = .raised .ConnectError ∧
    nConnect (connect false n (List.replicate (n + 1) (some .ConnectError))).1
      = n + 1 := by
  have hr : Exc.ConnectError ∈ Gen.retryable := by decide
  suffices ∀ (m i : Nat) r, r = run false .tcp m i (List.replicate (m + 1) (some .ConnectError)) →
      r.2 = .raised .ConnectError ∧ nConnect r.1 = m + 1 from this n 0 _ rfl
  intro m
  induction m with
  | zero => rintro i _ rfl; simp [run, hr, Gen.giveUp, Phase.op, nConnect]
  | succ m ih =>
    rintro i _ rfl
    have hg : ¬ (m : Int) + 1 ≤ 0 := by omega
    rw [List.replicate_succ]
    simpa [run, hr, giveUp_exact, hg, Phase.op, nConnect] using ih (i + 1) _ rfl

/-! non-vacuity: concrete scripts that meet the hypotheses -/
example : (connect true 2 [some .ConnectError, none, some .ConnectTimeout, none, none]).2
    = .connected := by decide
example : (connect true 2 [some .ConnectError, none, some .ConnectTimeout, none, none]).1
    = [.connect, .sleep 0, .connect, .startTls, .sleep 1, .connect, .startTls] := by decide
example : (connect false 1 [some .ConnectError, some .ReadError, none]).2 = .raised .ReadError := by
  decide

end Httpcore.C20
