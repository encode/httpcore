import HttpcoreModel.Generated
/-!
# C16 — Time-outs are applied, and to the right operations

`Gen.timeoutSites` is regenerated from the source on every run: one row per call of a network
operation in `httpcore/_async/*.py` (whether or not any scenario reaches it).
-/
namespace Httpcore.C16
open Httpcore

/-- the key an operation must be limited by -/
def requiredKey (op : String) : String :=
  if op = "read" then "read" else if op = "write" then "write" else "connect"

def isNegotiation (site : String × String × String × String) : Bool :=
  site.1 = "socks_proxy" && site.2.1 = "_init_socks5_connection"

/-- a site is fine if it passes the key that matches its operation; steps of a proxy negotiation may
use any configured key; public pass-through methods hand on what their caller gives -/
def siteOk (site : String × String × String × String) : Bool :=
  let key := site.2.2.2
  key = "caller" ||
  (if isNegotiation site then key = "connect" || key = "read" || key = "write"
   else key = requiredKey site.2.2.1)

/-- **C16.sites** — every call of a network operation passes a time-out taken from the request's
`timeout` extension, of the right kind: connect and TLS handshakes the connect time-out, reads the
read time-out, writes the write time-out; proxy negotiation steps one of the configured values;
none passes nothing. -/
theorem sites : Gen.timeoutSites.all siteOk = true := by decide

/-- no site passes no time-out at all: `siteOk` accepts the keys `caller`, `connect`, `read`, `write` only -/
theorem no_site_without_timeout : ∀ s ∈ Gen.timeoutSites, s.2.2.2 ≠ "none" := fun s hs hn => by
  have := List.all_eq_true.mp sites s hs
  simp [siteOk, requiredKey, hn] at this
  grind

/-- the table is not empty and covers every kind of operation (non-vacuity) -/
theorem sites_cover :
    (Gen.timeoutSites.any fun s => s.2.2.1 = "read") ∧ (Gen.timeoutSites.any fun s => s.2.2.1 = "write") ∧
    (Gen.timeoutSites.any fun s => s.2.2.1 = "connect_tcp") ∧ (Gen.timeoutSites.any fun s => s.2.2.1 = "start_tls") ∧
    10 ≤ Gen.timeoutSites.length := by decide

/-- `timeouts.get(key, None)`: an absent key means no limit (`none`), a present one its value -/
def lookupTimeout (cfg : List (String × Nat)) (key : String) : Option Nat :=
  (cfg.find? (fun kv => kv.1 = key)).map (·.2)

theorem find?_key_none {cfg : List (String × Nat)} {key : String} (h : ∀ kv ∈ cfg, kv.1 ≠ key) :
    cfg.find? (fun kv => kv.1 = key) = none :=
  List.find?_eq_none.mpr fun kv hkv => by simpa using h kv hkv

/-- **C16.absent_is_unlimited** -/
theorem absent_is_unlimited (cfg : List (String × Nat)) (key : String)
    (h : ∀ kv ∈ cfg, kv.1 ≠ key) : lookupTimeout cfg key = none := by
  rw [lookupTimeout, find?_key_none h]; rfl

theorem present_is_applied (cfg : List (String × Nat)) (key : String) (v : Nat) (pre : List (String × Nat))
    (post : List (String × Nat)) (hc : cfg = pre ++ (key, v) :: post) (h : ∀ kv ∈ pre, kv.1 ≠ key) :
    lookupTimeout cfg key = some v := by
  simp [hc, lookupTimeout, List.find?_append, find?_key_none h]

/-! ### the pool time-out, on a virtual clock -/

/-- a waiting request: arrived at `t0` with pool time-out `T`; `assignedAt` = the instant a pass gave
it a connection, if any. What `wait_for_connection` does at time `now`. -/
inductive WaitResult | waiting | proceed | poolTimeout
  deriving DecidableEq, Repr

def waitOutcome (t0 : Nat) (timeout : Option Nat) (assignedAt : Option Nat) (now : Nat) : WaitResult :=
  match assignedAt with
  | some a =>
    match timeout with
    | some T => if a ≤ t0 + T ∧ (a ≤ now) then .proceed else if t0 + T ≤ now then .poolTimeout else .waiting
    | none => if a ≤ now then .proceed else .waiting
  | none =>
    match timeout with
    | some T => if t0 + T ≤ now then .poolTimeout else .waiting
    | none => .waiting

/-- **C16.pool_timeout** — a queued request raises PoolTimeout exactly when it has been waiting for
its pool time-out without being given a connection: not earlier, not later; never without a
time-out; and a zero time-out still succeeds when the first pass assigns it. -/
theorem pool_timeout_exact (t0 T now : Nat) :
    waitOutcome t0 (some T) none now = .poolTimeout ↔ t0 + T ≤ now := by
  simp [waitOutcome]

theorem pool_timeout_never_without_limit (t0 now : Nat) (a : Option Nat) :
    waitOutcome t0 none a now ≠ .poolTimeout := by
  cases a <;> simp [waitOutcome] <;> split <;> simp

theorem zero_timeout_succeeds_when_assigned_at_once (t0 : Nat) :
    waitOutcome t0 (some 0) (some t0) t0 = .proceed := by
  simp [waitOutcome]

theorem assigned_in_time_never_times_out (t0 T a now : Nat) (h : a ≤ t0 + T) :
    waitOutcome t0 (some T) (some a) now ≠ .poolTimeout ∨ now < a := by
  by_cases hn : a ≤ now
  · left; simp [waitOutcome, h, hn]
  · right; omega

end Httpcore.C16
