import HttpcoreModel.Lemmas.PoolPass
/-!
# C08 — a pass never retires (as surplus, or for room) a connection that some request holds after the pass
-/
namespace Httpcore.C08
open Httpcore Httpcore.Pool

def ids (l : List Conn) : List Nat := l.map (·.id)

theorem nodup_of_ids {l : List Conn} (h : (ids l).Nodup) : l.Nodup :=
  (List.pairwise_map.mp h).imp fun hne e => hne (by rw [e])

theorem ids_subset {a b : List Conn} (h : ∀ c ∈ a, c ∈ b) {x : Nat} (hx : x ∈ ids a) : x ∈ ids b := by
  simp only [ids, List.mem_map] at hx ⊢
  obtain ⟨c, hc, rfl⟩ := hx
  exact ⟨c, h c hc, rfl⟩

theorem id_inj {l : List Conn} (h : (ids l).Nodup) {a b : Conn} (ha : a ∈ l) (hb : b ∈ l) (e : a.id = b.id) : a = b :=
  have hp := List.pairwise_map.mp h
  List.Pairwise.forall_of_forall_of_flip (R := fun a b => a.id = b.id → a = b) (fun _ _ _ => rfl)
    (hp.imp fun hne e => (hne e).elim) (hp.imp fun hne e => (hne e.symm).elim) ha hb e

/-- with distinct ids, removing the object removes its id: nothing within `mid.erase c` carries the id of `c` -/
theorem not_mem_ids_of_sublist_erase {l mid out : List Conn} {c : Conn} (h : (ids l).Nodup) (hc : c ∈ l)
    (hm : mid.Sublist l) (ho : out.Sublist (mid.erase c)) : c.id ∉ ids out := by
  intro hx
  obtain ⟨d, hd, e⟩ := List.mem_map.mp hx
  have hd' := ho.mem hd
  obtain rfl := id_inj h (hm.mem (List.mem_of_mem_erase hd')) hc e
  exact ((nodup_of_ids h).sublist hm).not_mem_erase hd'

theorem not_mem_ids_append_fresh (cfg : Cfg) {l : List Conn} {x n : Nat} (o : Nat) (hx : x < n) (h : x ∉ ids l) :
    x ∉ ids (l ++ [fresh cfg n o]) := by
  simp only [ids, List.map_append, List.map_cons, List.map_nil, List.mem_append, List.mem_singleton, fresh, not_or]
  exact ⟨h, Nat.ne_of_lt hx⟩

/-- invariant of the assignment loop; `reqs` = all requests (done and to do).  A request holds a connection that is reserved, or
one created in this pass, which is in the pool and not idle (so it is never evicted); what has been retired is neither. -/
structure K (s : State) (reqs : List Req) : Prop where
  nodup : (ids s.conns).Nodup
  below : ∀ c ∈ s.conns, c.id < s.nextId
  ret : ∀ e ∈ s.closing, e.2 ≠ .expired → e.1.id < s.nextId ∧ e.1.id ∉ s.reserved ∧ e.1.id ∉ ids s.conns
  held : ∀ q ∈ reqs, ∀ x, q.conn = some x → x ∈ s.reserved ∨ ∃ c ∈ s.conns, c.id = x ∧ c.idle = false

theorem K.final {s : State} {reqs : List Req} (h : K s reqs) :
    ∀ e ∈ s.closing, e.2 ≠ .expired → ∀ q ∈ reqs, q.conn ≠ some e.1.id := by
  intro e he hne q hq heq
  obtain ⟨_, h2, h3⟩ := h.ret e he hne
  rcases h.held q hq _ heq with h4 | ⟨c, hc, hid, _⟩
  · exact h2 h4
  · exact h3 (hid ▸ List.mem_map_of_mem hc)

theorem K.held_step {s s' : State} {done rest : List Req} {r r' : Req} (h : K s (done ++ r :: rest))
    (hres : ∀ x ∈ s.reserved, x ∈ s'.reserved) (hconn : ∀ c ∈ s.conns, c.idle = false → c ∈ s'.conns)
    (hr' : ∀ x, r'.conn = some x → x ∈ s'.reserved ∨ ∃ c ∈ s'.conns, c.id = x ∧ c.idle = false) :
    ∀ q ∈ done ++ r' :: rest, ∀ x, q.conn = some x → x ∈ s'.reserved ∨ ∃ c ∈ s'.conns, c.id = x ∧ c.idle = false := by
  intro q hq x hx
  have hq' : q = r' ∨ q ∈ done ++ r :: rest := by
    simp only [List.mem_append, List.mem_cons] at hq ⊢
    exact hq.elim (fun h => .inr (.inl h)) (·.imp_right fun h => .inr (.inr h))
  rcases hq' with rfl | hq'
  · exact hr' x hx
  · exact (h.held q hq' x hx).imp (hres x) fun ⟨c, hc, e, hi⟩ => ⟨c, hconn c hc hi, e, hi⟩

/-- a connection created for `r`, in place of idle ones that go to the closing list unreserved -/
theorem K.create (cfg : Cfg) {s : State} {done rest : List Req} {r : Req} (h : K s (done ++ r :: rest))
    {conns' : List Conn} {closing' : List (Conn × Reason)}
    (hsub : conns'.Sublist s.conns) (hkeep : ∀ c ∈ s.conns, c.idle = false → c ∈ conns')
    (hcl : ∀ e ∈ closing', e ∈ s.closing ∨ (e.1 ∈ s.conns ∧ e.1.id ∉ s.reserved ∧ e.1.id ∉ ids conns')) :
    K (created cfg s r conns' closing').1 (done ++ (created cfg s r conns' closing').2 :: rest) where
  nodup := by
    simp only [created, ids, List.map_append, List.map_cons, List.map_nil, fresh]
    refine List.nodup_append.mpr ⟨h.nodup.sublist (hsub.map _), by simp, fun a ha b hb => ?_⟩
    obtain ⟨c, hc, rfl⟩ := List.mem_map.mp ha
    rw [List.mem_singleton.mp hb]
    exact Nat.ne_of_lt (h.below c (hsub.mem hc))
  below := by
    intro c hc
    rcases List.mem_append.mp hc with hc | hc
    · exact Nat.lt_succ_of_lt (h.below c (hsub.mem hc))
    · rw [List.mem_singleton.mp hc]; exact Nat.lt_succ_self _
  ret := by
    intro e he hne
    rcases hcl e he with he | ⟨h1, h2, h3⟩
    · obtain ⟨a1, a2, a3⟩ := h.ret e he hne
      exact ⟨Nat.lt_succ_of_lt a1, a2, not_mem_ids_append_fresh cfg _ a1 fun hm => a3 ((hsub.map _).mem hm)⟩
    · exact ⟨Nat.lt_succ_of_lt (h.below _ h1), h2, not_mem_ids_append_fresh cfg _ (h.below _ h1) h3⟩
  held := h.held_step (fun _ hx => hx) (fun c hc hi => List.mem_append_left _ (hkeep c hc hi))
    fun x hx => Or.inr ⟨_, List.mem_append_right _ List.mem_cons_self, Option.some.inj hx, rfl⟩

theorem assignOne_K (cfg : Cfg) (hp : cfg.protectAssigned = true) (s : State) (r : Req) (rest done : List Req)
    (hr : r.conn = none) (h : K s (done ++ r :: rest)) :
    K (assignOne cfg s r).1 (done ++ (assignOne cfg s r).2 :: rest) := by
  rcases assignOne_cases cfg s r with ⟨c, hc, e⟩ | ⟨_, _, e⟩ | ⟨_, _, i, hi, e⟩ | ⟨_, _, _, e⟩ <;> rw [e]
  · -- an available connection: it becomes reserved, and nothing retired has its id
    have hc := (mem_availFor.mp (List.mem_of_mem_head? hc)).1
    simp only [hp, if_true]
    refine ⟨h.nodup, h.below, fun e he hne => ?_, h.held_step (fun _ hx => List.mem_cons_of_mem _ hx) (fun _ hc _ => hc)
      fun x hx => Or.inl (Option.some.inj hx ▸ List.mem_cons_self)⟩
    obtain ⟨a1, a2, a3⟩ := h.ret e he hne
    exact ⟨a1, fun hm => (List.mem_cons.mp hm).elim (fun heq => a3 (heq ▸ List.mem_map_of_mem hc)) a2, a3⟩
  · exact h.create cfg (List.Sublist.refl _) (fun _ hc _ => hc) fun _ he => Or.inl he
  · obtain ⟨hi, hidle, hres⟩ := mem_freeIdle.mp (List.mem_of_mem_head? hi)
    refine h.create cfg List.erase_sublist (fun c hc hci => ?_) fun e he => ?_
    · exact (List.mem_erase_of_ne fun heq => by rw [heq, hidle] at hci; cases hci).mpr hc
    · rcases List.mem_append.mp he with he | he
      · exact Or.inl he
      · rw [List.mem_singleton.mp he]
        exact Or.inr ⟨hi, isReserved_eq_false.mp hres, not_mem_ids_of_sublist_erase h.nodup hi (List.Sublist.refl _) (List.Sublist.refl _)⟩
  · exact ⟨h.nodup, h.below, h.ret, h.held_step (fun _ hx => hx) (fun _ hc _ => hc) fun x hx => by rw [hr] at hx; cases hx⟩

theorem cleanup_K (cfg : Cfg) (s : State) (hnd : (ids s.conns).Nodup) (hlt : ∀ c ∈ s.conns, c.id < s.nextId) :
    K { s with conns := (cleanup cfg (s.reqs.filterMap (·.conn)) s.conns s.conns []).1,
               closing := (cleanup cfg (s.reqs.filterMap (·.conn)) s.conns s.conns []).2,
               reserved := s.reqs.filterMap (·.conn) } s.reqs where
  nodup := hnd.sublist ((cleanup_sublist ..).map _)
  below := fun c hc => hlt c ((cleanup_sublist ..).mem hc)
  ret := by
    intro e he hne
    rcases cleanup_closed _ _ _ _ _ he with h | ⟨hs, mid, h1, h2, hv⟩
    · cases h
    · refine ⟨hlt _ hs, ?_, not_mem_ids_of_sublist_erase hnd hs h2 h1⟩
      rcases verdict_close hv with ⟨h, _⟩ | ⟨_, _, h, _⟩ | ⟨_, _, _, h⟩
      · exact absurd h hne
      · exact isReserved_eq_false.mp h
      · exact isReserved_eq_false.mp h
  held := fun q hq x hx => Or.inl (List.mem_filterMap.mpr ⟨q, hq, hx⟩)

/-- **C08.pass_never_retires_held_connection** — with the reservation rule of the current source, for every pool state whose
connections are distinct objects with distinct ids (below `nextId`): no connection that the pass closes as surplus or evicts to
make room is the connection of any request after the pass - neither of a request that held one before (a thread about to
start on it) nor of one assigned during the pass. -/
theorem pass_never_retires_held_connection (cfg : Cfg) (hp : cfg.protectAssigned = true) (s : State)
    (hnd : (ids s.conns).Nodup) (hlt : ∀ c ∈ s.conns, c.id < s.nextId) :
    ∀ e ∈ (pass cfg s).closing, e.2 ≠ .expired → ∀ q ∈ (pass cfg s).reqs, q.conn ≠ some e.1.id := by
  have h := assignAll_induct cfg (I := fun s done todo => K s (done ++ todo))
    (fun _ _ _ _ _ h => (List.append_assoc ..).symm ▸ h)
    (fun s r rest done hr h => (List.append_assoc ..).symm ▸ assignOne_K cfg hp s r rest done hr h)
    (fun _ _ h => ⟨h.1, h.2, h.3, h.4⟩) _ s.reqs [] (cleanup_K cfg s hnd hlt)
  rw [List.append_nil] at h
  simp only [pass, hp, if_true]
  exact h.final

end Httpcore.C08
