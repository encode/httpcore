import HttpcoreModel.H2
/-!
# C02 (HTTP/2 half) — the body is exactly the DATA the server framed, or an error
-/
namespace Httpcore.C02
open Httpcore Httpcore.H2

def dataOf : List SEv → Bytes
  | [] => []
  | .data d :: rest => d ++ dataOf rest
  | _ :: rest => dataOf rest

def hasReset (evs : List SEv) : Bool := evs.any fun e => match e with | .reset _ => true | _ => false
def hasEnded (evs : List SEv) : Bool := evs.any fun e => match e with | .ended => true | _ => false
def hasResponse (evs : List SEv) : Bool := evs.any fun e => match e with | .response _ _ => true | _ => false

theorem recvBody_complete {st : Nat} {hs : List (Bytes × Bytes)} {acc : Bytes} {evs : List SEv} {st' : Nat}
    {hs' : List (Bytes × Bytes)} {body : Bytes} (h : recvBody true st hs acc evs = .complete st' hs' body) :
    ∃ mid rest, evs = mid ++ SEv.ended :: rest ∧ hasReset mid = false ∧ hasEnded mid = false ∧
      body = acc ++ dataOf mid ∧ st' = st ∧ hs' = hs := by
  induction evs generalizing acc with
  | nil => cases h
  | cons e rest ih =>
    cases e with
    | ended =>
      cases h
      exact ⟨[], rest, rfl, rfl, rfl, (List.append_nil _).symm, rfl, rfl⟩
    | reset c => cases h
    | data _ | response _ _ =>
      -- an event the body phase passes over joins `mid`; `recvBody` and the flags of the longer list unfold by computation
      obtain ⟨mid, r, rfl, h2, h3, h4, h5, h6⟩ := ih h
      exact ⟨_ :: mid, r, rfl, h2, h3, by simp [h4, dataOf], h5, h6⟩

/-- **C02.h2_body_exact** — for every sequence of events queued for a stream: if the caller is handed a complete
response, the events are `pre ++ [response] ++ mid ++ [END_STREAM] ++ rest` with no reset before END_STREAM, the body is
exactly the concatenation of the DATA between the headers and END_STREAM, and status and headers are the ones of that
HEADERS frame. In particular a stream reset before END_STREAM never yields a (shorter) body. -/
theorem h2_body_exact (evs : List SEv) (st : Nat) (hs : List (Bytes × Bytes)) (body : Bytes)
    (h : recvHead true evs = .complete st hs body) :
    ∃ pre mid rest, evs = pre ++ SEv.response st hs :: (mid ++ SEv.ended :: rest) ∧
      hasReset pre = false ∧ hasResponse pre = false ∧ hasReset mid = false ∧ hasEnded mid = false ∧ body = dataOf mid := by
  induction evs with
  | nil => cases h
  | cons e rest ih =>
    cases e with
    | response s2 h2' =>
      obtain ⟨mid, r, rfl, h2, h3, rfl, rfl, rfl⟩ := recvBody_complete h
      exact ⟨[], mid, r, rfl, rfl, rfl, h2, h3, rfl⟩
    | reset c => cases h
    | data _ | ended =>
      -- an event the head phase passes over joins `pre`
      obtain ⟨pre, mid, r, rfl, h2, h3, h456⟩ := ih h
      exact ⟨_ :: pre, mid, r, rfl, h2, h3, h456⟩

/-- **C02.h2_truncation** — events that stop before END_STREAM never give a complete response: the caller keeps
reading (and gets the connection's error when it ends) or fails on the reset. -/
theorem h2_truncation (evs : List SEv) (hne : hasEnded evs = false) :
    recvHead true evs = .needMore ∨ recvHead true evs = .failed := by
  cases hr : recvHead true evs with
  | needMore => left; rfl
  | failed => right; rfl
  | complete st hs body =>
    obtain ⟨pre, mid, r, h1, _⟩ := h2_body_exact evs st hs body hr
    subst h1
    simp [hasEnded] at hne

/-- the code is the `resetFails = true` reader (both facts regenerated from the source) -/
theorem recv_is_strict : recv = recvHead true := by
  funext evs
  simp [recv, Gen.h2ResetAlwaysFails, Gen.h2BodyEndsOnlyOnStreamEnded]

/-- what the theorem excludes: a reader that takes RST_STREAM for the end of the body returns a short body -/
example : recvHead false [.response 200 [], .data [1, 2], .reset 0] = .complete 200 [] [1, 2] := by decide
example : recvHead true [.response 200 [], .data [1, 2], .reset 0] = .failed := by decide
example : recvHead true [.data [9], .response 200 [], .data [1, 2], .response 200 [], .data [3], .ended, .data [4]] = .complete 200 [] [1, 2, 3] := by decide

end Httpcore.C02
