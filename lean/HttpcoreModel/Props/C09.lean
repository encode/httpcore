import HttpcoreModel.Props.Life
import HttpcoreModel.Lemmas.PoolPass
import HttpcoreModel.Generated
/-!
# C09 — Keep-alive reuse, limits and expiry (pool-pass theorems)

All theorems are about one assignment pass with a consistent view of the connections' status and
pairwise distinct connections (`Nodup`), for every configuration.
-/
namespace Httpcore.C09
open Httpcore.Pool

def idleCount (l : List Conn) : Nat := (l.filter (·.idle)).length

theorem idleCount_sublist {l₁ l₂ : List Conn} (h : l₁.Sublist l₂) : idleCount l₁ ≤ idleCount l₂ :=
  (h.filter _).length_le

theorem idleCount_le_surplus (cfg : Cfg) (l : List Conn) : idleCount l ≤ surplusCount cfg l := by
  unfold idleCount surplusCount
  split
  · exact Nat.le_refl _
  · exact List.length_filter_le _ _

/-- a free idle connection that survives the house-keeping loop was kept while the count was within the limit, and the pool has
only shrunk since -/
theorem cleanup_idle (cfg : Cfg) (res : List Nat) (snap : List Conn) (closing : List (Conn × Reason)) (hnd : snap.Nodup)
    {x : Conn} (hx : x ∈ (cleanup cfg res snap snap closing).1) (hi : x.idle = true) (hr : isReserved res x = false) :
    idleCount (cleanup cfg res snap snap closing).1 ≤ cfg.maxKeepalive := by
  obtain ⟨mid, h1, _, hk⟩ := cleanup_kept cfg res snap snap closing hnd hx ((cleanup_sublist ..).mem hx)
  exact Nat.le_trans (idleCount_sublist h1) (Nat.le_trans (idleCount_le_surplus cfg mid) ((verdict_keep hk).2.2.1 hi hr))

theorem idleCount_append_fresh (cfg : Cfg) (l : List Conn) (n o : Nat) : idleCount (l ++ [fresh cfg n o]) = idleCount l := by
  simp [idleCount, List.filter_append, fresh]

theorem assignOne_idle (cfg : Cfg) (s : State) (r : Req) :
    idleCount (assignOne cfg s r).1.conns ≤ idleCount s.conns := by
  rcases assignOne_cases cfg s r with ⟨_, _, e⟩ | ⟨_, _, e⟩ | ⟨_, _, _, _, e⟩ | ⟨_, _, _, e⟩ <;> rw [e]
  · exact Nat.le_refl _
  · exact Nat.le_of_eq (idleCount_append_fresh ..)
  · exact Nat.le_trans (Nat.le_of_eq (idleCount_append_fresh ..)) (idleCount_sublist List.erase_sublist)
  · exact Nat.le_refl _

/-- **C09.idle_bound** — once a pass completes with no request left between "handed a connection" and "started on it"
(always the case for sequential use, the property's quantifier), idle connections never outnumber the keep-alive limit
(`min(max_connections, max_keepalive_connections)`, including 0), whatever the mix of idle / active / closed / expired
connections and queued requests. (An idle connection that a concurrent request has just been handed is exempt until that
request starts: closing it would fail or re-queue the request, finding F-C08-a.) -/
theorem idle_bound (cfg : Cfg) (s : State) (hnd : s.conns.Nodup) (hnone : ∀ r ∈ s.reqs, r.conn = none) :
    idleCount (pass cfg s).conns ≤ cfg.maxKeepalive := by
  have hres : (if cfg.protectAssigned then s.reqs.filterMap (·.conn) else []) = [] := by
    split
    · exact List.filterMap_eq_nil_iff.mpr hnone
    · rfl
  simp only [pass, hres]
  refine assignAll_induct cfg (I := fun s' _ _ => idleCount s'.conns ≤ cfg.maxKeepalive) (fun _ _ _ _ _ h => h)
    (fun s r _ _ _ h => Nat.le_trans (assignOne_idle cfg s r) h) (fun _ _ h => h) _ s.reqs [] ?_
  cases hf : (cleanup cfg [] s.conns s.conns []).1.filter (·.idle) with
  | nil => simp [idleCount, hf]
  | cons x _ =>
    have hx := List.mem_filter.mp (hf ▸ List.mem_cons_self : x ∈ List.filter _ _)
    exact cleanup_idle cfg [] s.conns [] hnd hx.1 hx.2 rfl

/-- **C09.never_hand_out_expired (a)** — after the house-keeping loop no connection that
reported closed or expired is left in the pool (so none can be assigned by the second loop). -/
theorem no_expired_left (cfg : Cfg) (res : List Nat) (s : State) (hnd : s.conns.Nodup) :
    ∀ x ∈ (cleanup cfg res s.conns s.conns []).1, x.closed = false ∧ x.expired = false := by
  intro x hx
  obtain ⟨_, _, _, hk⟩ := cleanup_kept cfg res s.conns s.conns [] hnd hx ((cleanup_sublist ..).mem hx)
  exact ⟨(verdict_keep hk).1, (verdict_keep hk).2.1⟩

/-- **C09.never_hand_out_expired (b)** / **C09.reuse** — a queued request is given either an
existing pooled connection that is available for exactly its origin, or a brand-new connection; and
when such an available connection exists it gets the first one and nothing is created. -/
theorem assigned_is_available_or_new (cfg : Cfg) (s : State) (r : Req) (cid : Nat)
    (h : (assignOne cfg s r).2.conn = some cid) (hr : r.conn = none) :
    (∃ c ∈ s.conns, c.id = cid ∧ c.available = true ∧ c.origin = r.origin) ∨ cid = s.nextId := by
  rcases assignOne_cases cfg s r with ⟨c, hc, e⟩ | ⟨_, _, e⟩ | ⟨_, _, _, _, e⟩ | ⟨_, _, _, e⟩ <;> rw [e] at h
  · obtain ⟨hc, ho, ha⟩ := mem_availFor.mp (List.mem_of_mem_head? hc)
    exact Or.inl ⟨c, hc, Option.some.inj h, ha, ho⟩
  · exact Or.inr (Option.some.inj h).symm
  · exact Or.inr (Option.some.inj h).symm
  · rw [hr] at h; cases h

theorem reuse_first_available (cfg : Cfg) (s : State) (r : Req) (c : Conn) (tl : List Conn)
    (hav : s.conns.filter (fun c => c.origin == r.origin && c.available) = c :: tl) :
    (assignOne cfg s r).2 = { r with conn := some c.id } ∧ (assignOne cfg s r).1.conns = s.conns ∧
    (assignOne cfg s r).1.closing = s.closing ∧ (assignOne cfg s r).1.nextId = s.nextId := by
  simp [assignOne, hav]

/-- **C09.close_reasons** — with the surplus test counting *idle* connections (the repaired
expression; `Gen.poolCountsIdleOnly` says what the current source does), every connection the
house-keeping loop closes is expired, or idle, not handed to any request, while the idle connections outnumber the
keep-alive limit - or it is not idle at all and no request holds it (an abandoned connection: never an idle one). -/
theorem close_reasons (cfg : Cfg) (hfix : cfg.countIdleOnly = true) (res : List Nat) (s : State) :
    ∀ e ∈ (cleanup cfg res s.conns s.conns []).2,
      (e.2 = .expired ∧ e.1.expired = true) ∨
      (∃ k, e.2 = .surplus k ∧ e.1.idle = true ∧ isReserved res e.1 = false ∧ k > cfg.maxKeepalive) ∨
      (e.2 = .abandoned ∧ e.1.idle = false ∧ isReserved res e.1 = false) := by
  intro e he
  rcases cleanup_closed cfg res s.conns s.conns [] he with h | ⟨_, mid, _, _, hv⟩
  · cases h
  · rcases verdict_close hv with h | ⟨h1, h2, h3, h4⟩ | ⟨h1, _, h3⟩
    · exact Or.inl h
    · simp only [surplusCount, hfix, if_true] at h4
      exact Or.inr (Or.inl ⟨_, h1, h2, h3, h4⟩)
    · exact Or.inr (Or.inr ⟨h1, h3⟩)

/-- **C09.idle_closed_only_for_reason** — in particular an *idle* connection is closed by the house-keeping loop only because
it expired or because the idle connections outnumber the keep-alive limit. -/
theorem idle_closed_only_for_reason (cfg : Cfg) (hfix : cfg.countIdleOnly = true) (res : List Nat) (s : State) :
    ∀ e ∈ (cleanup cfg res s.conns s.conns []).2, e.1.idle = true →
      (e.2 = .expired ∧ e.1.expired = true) ∨ (∃ k, e.2 = .surplus k ∧ k > cfg.maxKeepalive) := by
  intro e he hi
  rcases close_reasons cfg hfix res s e he with h | ⟨k, h1, _, _, h4⟩ | ⟨_, h2, _⟩
  · exact Or.inl h
  · exact Or.inr ⟨k, h1, h4⟩
  · rw [hi] at h2; cases h2

/-- the second loop closes a connection only to make room at the connection limit, and only an
idle one that no request has been handed -/
theorem eviction_reason (cfg : Cfg) (s : State) (r : Req) :
    (assignOne cfg s r).1.closing = s.closing ∨
    (∃ i, (assignOne cfg s r).1.closing = s.closing ++ [(i, .room)] ∧ i ∈ s.conns ∧ i.idle = true ∧
      isReserved s.reserved i = false ∧
      ¬ s.conns.length < cfg.maxConn ∧
      s.conns.filter (fun c => c.origin == r.origin && c.available) = []) := by
  rcases assignOne_cases cfg s r with ⟨_, _, e⟩ | ⟨_, _, e⟩ | ⟨hav, hfull, i, hi, e⟩ | ⟨_, _, _, e⟩ <;> rw [e]
  · exact Or.inl rfl
  · exact Or.inl rfl
  · obtain ⟨hi, hidle, hres⟩ := mem_freeIdle.mp (List.mem_of_mem_head? hi)
    exact Or.inr ⟨i, rfl, hi, hidle, hres, hfull, hav⟩
  · exact Or.inl rfl

/-- the repaired surplus expression is what the current source contains -/
theorem source_counts_idle_only : Gen.poolCountsIdleOnly = true := rfl

/-- with the 1.0.7 expression (count of *all* connections) the full statement fails: keep-alive
limit 1, two active connections and one idle one — the idle connection is closed although only one
connection is idle. -/
theorem close_reasons_counterexample_107 :
    let cfg : Cfg := { maxConn := 3, maxKeepalive := 1, newAvail := fun _ => false, countIdleOnly := false, protectAssigned := false }
    (cleanup cfg [] [Conn.mk 0 0 false false false false, Conn.mk 1 0 false false false false,
                  Conn.mk 2 1 false false true true]
      [Conn.mk 0 0 false false false false, Conn.mk 1 0 false false false false,
       Conn.mk 2 1 false false true true] []).2
      = [(Conn.mk 2 1 false false true true, .surplus 1)] := by decide

end Httpcore.C09

namespace Httpcore.C09
open Httpcore.Pool Httpcore.ConnLife Httpcore.LifeProps

/-- a connection that is neither expired nor idle and that a request holds is not closed by the house-keeping loop, whichever
way the surplus is counted -/
theorem held_busy_not_closed (cfg : Cfg) (res : List Nat) (snap cur : List Conn) (v : Conn)
    (h1 : v.expired = false) (h2 : v.idle = false) (h3 : isReserved res v = true) :
    ∀ e ∈ (cleanup cfg res snap cur []).2, e.1 ≠ v := by
  intro e he heq
  rcases cleanup_closed cfg res snap cur [] he with h | ⟨_, _, _, _, hv⟩
  · cases h
  · rw [heq] at hv
    rcases verdict_close hv with ⟨_, h⟩ | ⟨_, h, _⟩ | ⟨_, _, _, h⟩
    · rw [h1] at h; cases h
    · rw [h2] at h; cases h
    · rw [h3] at h; cases h

/-- **in_use_survives_housekeeping** (C09 with C12) - composition of the pool-pass theorem with the life-cycle theorem: an HTTP/2
connection on which a request has been accepted and not finished (after *any* history of life-cycle operations, at *any* clock
reading), and which the pool holds for a request in its queue, is not among the connections the house-keeping loop closes -
whatever the rest of the pool looks like.  (`close_reasons` alone leaves the door "expired" open; `h2_in_use_never_expires`
closes it.) -/
theorem in_use_survives_housekeeping (cfg : Cfg) (hfix : cfg.countIdleOnly = true) (res : List Nat) (s : State)
    (ka : Option Nat) (ops : List Op2) (now id origin : Nat)
    (hu : (run2 (init2 ka) ops).inUse) (hc : (run2 (init2 ka) ops).c.st ≠ .closed)
    (hres : isReserved res (view2 now id origin (run2 (init2 ka) ops).c) = true) :
    ∀ e ∈ (cleanup cfg res s.conns s.conns []).2, e.1 ≠ view2 now id origin (run2 (init2 ka) ops).c := by
  obtain ⟨h1, h2, _⟩ := h2_in_use_view ka ops now id origin hu hc
  exact held_busy_not_closed cfg res s.conns s.conns _ h1 h2 hres

/-- the same for an HTTP/1.1 connection with an exchange open: whatever the clock says and although the response bytes make its
socket readable, the house-keeping loop does not close it while the pool holds it for a request -/
theorem in_use_h1_survives_housekeeping (cfg : Cfg) (hfix : cfg.countIdleOnly = true) (res : List Nat) (s : State)
    (ka : Option Nat) (ops : List Op1) (now : Nat) (readable : Bool) (id origin : Nat)
    (ha : (run1 (init1 ka) ops).c.st = .active)
    (hres : isReserved res (view1 now readable id origin (run1 (init1 ka) ops).c) = true) :
    ∀ e ∈ (cleanup cfg res s.conns s.conns []).2, e.1 ≠ view1 now readable id origin (run1 (init1 ka) ops).c := by
  obtain ⟨h1, h2, _, _⟩ := h1_in_use_view ka ops now readable id origin ha
  exact held_busy_not_closed cfg res s.conns s.conns _ h1 h2 hres

/-- ... and it is not evicted to make room either (only idle connections are) -/
theorem in_use_not_evicted (cfg : Cfg) (s : State) (r : Req) (ka : Option Nat) (ops : List Op2) (now id origin : Nat)
    (hu : (run2 (init2 ka) ops).inUse) (hc : (run2 (init2 ka) ops).c.st ≠ .closed) :
    ∀ i, (assignOne cfg s r).1.closing = s.closing ++ [(i, .room)] → i ≠ view2 now id origin (run2 (init2 ka) ops).c := by
  intro i hi heq
  rcases eviction_reason cfg s r with h | ⟨j, hj, _, hidle, _⟩
  · simp [h] at hi
  · obtain rfl : j = i := by simpa [hj] using hi
    rw [heq, (h2_in_use_view ka ops now id origin hu hc).2.1] at hidle
    cases hidle

end Httpcore.C09

namespace Httpcore.C09
open Httpcore.Pool Httpcore.ConnLife Httpcore.LifeProps

/-- the configuration the current source implements, read off the regenerated flags -/
def srcCfg (maxConn maxKeepalive : Nat) (newAvail : Nat → Bool) : Cfg :=
  { maxConn := maxConn, maxKeepalive := maxKeepalive, newAvail := newAvail, countIdleOnly := Gen.poolCountsIdleOnly,
    protectAssigned := Gen.poolProtectsAssigned, reclaimAbandoned := Gen.poolReclaimsAbandoned }

/-- **cleanup_follows_source** - Tie A, literally: one iteration of the model's house-keeping loop does to a connection exactly what
the *translated* `if / elif` chain of the source (`Gen.poolCleanupDecision`, regenerated on every run) decides - which branch takes
it, whether it is removed, whether it is handed to `_close_connections` - for every connection, every reservation list and every
pool content. -/
theorem cleanup_follows_source (mc mk : Nat) (na : Nat → Bool) (res : List Nat) (c : Conn) (rest cur : List Conn)
    (closing : List (Conn × Reason)) :
    let cfg := srcCfg mc mk na
    let d := Gen.poolCleanupDecision c.closed c.expired c.idle (isReserved res c) (cur.filter (·.idle)).length cur.length mk
    cleanup cfg res (c :: rest) cur closing =
      (if d.1 = 4 then cleanup cfg res rest cur closing
       else if d.2 then
         cleanup cfg res rest (cur.erase c) (closing ++ [(c, if d.1 = 1 then .expired else if d.1 = 2 then .surplus (cur.filter (·.idle)).length else .abandoned)])
       else cleanup cfg res rest (cur.erase c) closing) := by
  intro cfg d
  rw [cleanup]
  simp only [d, cfg, srcCfg, Gen.poolCleanupDecision, surplusCount, Gen.poolCountsIdleOnly, Gen.poolReclaimsAbandoned, if_pos]
  generalize c.closed = a, c.expired = b, c.idle = i, isReserved res c = r,
    decide ((cur.filter (·.idle)).length > mk) = g
  -- both sides are now the same chain of four tests: "closed" and "expired" decide alone, the other two are tried on every
  -- value of what they read
  cases a
  · cases b
    · cases i <;> cases r <;> cases g <;> rfl
    · rfl
  · rfl

/-- **assign_follows_source** - the same for the assignment loop: for one queued request the model reuses / creates / evicts-and-creates /
leaves waiting exactly as the translated chain `Gen.poolAssignDecision` says, for every pool content. -/
theorem assign_follows_source (cfg : Cfg) (s : State) (r : Req) :
    let avail := s.conns.filter (fun c => c.origin == r.origin && c.available)
    let idles := s.conns.filter (fun c => c.idle && !(isReserved s.reserved c))
    let d := Gen.poolAssignDecision (!avail.isEmpty) (!idles.isEmpty) s.conns.length cfg.maxConn
    (d.1 = 0 → ∃ c, avail.head? = some c ∧ (assignOne cfg s r).2.conn = some c.id ∧ (assignOne cfg s r).1.conns = s.conns) ∧
    (d.1 = 1 → (assignOne cfg s r).2.conn = some s.nextId ∧ (assignOne cfg s r).1.conns = s.conns ++ [fresh cfg s.nextId r.origin] ∧
               (assignOne cfg s r).1.closing = s.closing) ∧
    (d.1 = 2 → ∃ i, idles.head? = some i ∧ (assignOne cfg s r).2.conn = some s.nextId ∧
               (assignOne cfg s r).1.conns = (s.conns.erase i) ++ [fresh cfg s.nextId r.origin] ∧
               (assignOne cfg s r).1.closing = s.closing ++ [(i, .room)]) ∧
    (d.1 = 3 → assignOne cfg s r = (s, r)) := by
  intro avail idles d
  simp only [d, Gen.poolAssignDecision, assignOne]
  cases ha : s.conns.filter (fun c => c.origin == r.origin && c.available) with
  | cons c tl => simp [avail, ha, fresh]
  | nil =>
    by_cases hl : s.conns.length < cfg.maxConn
    · simp [avail, ha, hl, fresh]
    · cases hi : s.conns.filter (fun c => c.idle && !(isReserved s.reserved c)) with
      | cons i tl => simp [avail, idles, ha, hl, hi, fresh]
      | nil => simp [avail, idles, ha, hl, hi]

/-- **dead_idle_h1_closed_by_pass** (C09: "a connection whose keep-alive expiry has elapsed, or an idle HTTP/1.1 connection the server
has already closed, is never handed to a request but closed") - composition: for an HTTP/1.1 connection object in *any* reachable
state that is IDLE, if its socket is readable (the server has closed it) or the clock is beyond the moment it went idle plus
`keepalive_expiry`, the house-keeping loop of the next pass removes it from the pool and hands it to `_close_connections` with reason
"expired" - before the assignment loop looks at any connection. -/
theorem dead_idle_h1_closed_by_pass (cfg : Cfg) (res : List Nat) (ka : Option Nat) (ops : List Op1) (now : Nat) (readable : Bool)
    (id origin : Nat) (rest cur : List Conn) (closing : List (Conn × Reason))
    (hidle : (run1 (init1 ka) ops).c.st = .idle)
    (hdead : readable = true ∨ ∃ t k, (run1 (init1 ka) ops).idleSince = some t ∧ (run1 (init1 ka) ops).c.ka = some k ∧ now > t + k) :
    let v := view1 now readable id origin (run1 (init1 ka) ops).c
    cleanup cfg res (v :: rest) cur closing = cleanup cfg res rest (cur.erase v) (closing ++ [(v, .expired)]) := by
  intro v
  obtain ⟨t0, ht0, hexp⟩ := h1_expiry_exact ka ops now readable hidle
  have hclosed : v.closed = false := by simp [v, view1, Gen.h1IsClosed, hidle]
  have hexpired : v.expired = true := by
    show Gen.h1HasExpired (run1 (init1 ka) ops).c now readable = true
    rw [hexp]
    rcases hdead with h | ⟨t, k, h1, h2, h3⟩
    · simp [h]
    · rw [ht0] at h1
      cases h1
      simp [h2, h3]
  simp [cleanup, hclosed, hexpired]

/-- the same for an idle HTTP/2 connection whose keep-alive expiry has elapsed (HTTP/2 has no "socket readable" rule) -/
theorem expired_idle_h2_closed_by_pass (cfg : Cfg) (res : List Nat) (ka : Option Nat) (ops : List Op2) (now id origin : Nat)
    (rest cur : List Conn) (closing : List (Conn × Reason))
    (hidle : (run2 (init2 ka) ops).c.st = .idle)
    (hdead : ∃ t k, (run2 (init2 ka) ops).idleSince = some t ∧ (run2 (init2 ka) ops).c.ka = some k ∧ now > t + k) :
    let v := view2 now id origin (run2 (init2 ka) ops).c
    cleanup cfg res (v :: rest) cur closing = cleanup cfg res rest (cur.erase v) (closing ++ [(v, .expired)]) := by
  intro v
  have hexp := h2_expiry_exact ka ops now hidle
  obtain ⟨t, k, h1, h2, h3⟩ := hdead
  have hclosed : v.closed = false := by simp [v, view2, Gen.h2IsClosed, hidle]
  have hexpired : v.expired = true := by
    show Gen.h2HasExpired (run2 (init2 ka) ops).c now = true
    rw [hexp, h1, h2]
    simp [h3]
  simp [cleanup, hclosed, hexpired]

/-- ... and an idle connection that is *not* dead (clock within the expiry, socket quiet) is not closed as expired: the keep-alive
window is honoured exactly -/
theorem live_idle_h1_not_expired (ka : Option Nat) (ops : List Op1) (now id origin : Nat)
    (hidle : (run1 (init1 ka) ops).c.st = .idle)
    (hlive : ∀ t k, (run1 (init1 ka) ops).idleSince = some t → (run1 (init1 ka) ops).c.ka = some k → now ≤ t + k) :
    (view1 now false id origin (run1 (init1 ka) ops).c).expired = false := by
  obtain ⟨t0, ht0, hexp⟩ := h1_expiry_exact ka ops now false hidle
  show Gen.h1HasExpired (run1 (init1 ka) ops).c now false = false
  rw [hexp]
  cases hk : (run1 (init1 ka) ops).c.ka with
  | none => simp
  | some k =>
    have := hlive t0 k ht0 hk
    simp; omega

end Httpcore.C09
