import HttpcoreModel.ConnLife
import HttpcoreModel.Lemmas.LifeFields
import HttpcoreModel.Pool
/-!
# Life-cycle theorems (used by C01, C09, C12)

Statements quantify over **every sequence of life-cycle operations** on a connection object, for every `keepalive_expiry`
(`none`, `some 0`, ...) and every clock reading.  The functions `Gen.h1*` / `Gen.h2*` they unfold are regenerated from the source
on every run; a change of the gate, of `_response_closed`, of `aclose` or of a status predicate re-checks all of this.
-/
namespace Httpcore.LifeProps
open Httpcore Httpcore.Life Httpcore.ConnLife Httpcore.LifeFields

/-! ## HTTP/2 -/

/-- invariant of the HTTP/2 connection object -/
structure Inv2 (g : G2) : Prop where
  starting_exact : g.c.starting = g.pending
  idle_unused : g.c.st = .idle → g.c.streams = 0 ∧ g.pending = 0
  never_new : g.c.st ≠ .new
  expiry_only_idle : g.c.st = .active → g.c.expireAt = none
  expiry_some : g.c.st = .idle → ∀ t k, g.idleSince = some t → g.c.ka = some k → g.c.expireAt = some (t + k)
  expiry_none : g.c.st = .idle → (g.idleSince = none ∨ g.c.ka = none) → g.c.expireAt = none

theorem source_releases_starting : Gen.h2StartingReleasedOnEveryPath = true := by decide

theorem inv2_init (ka : Option Nat) : Inv2 (init2 ka) := by
  constructor <;> simp [init2]

attribute [local grind] Inv2 in
theorem inv2_step (g : G2) (op : Op2) (h : Inv2 g) : Inv2 (step2 g op) := by
  cases op <;> simp only [step2, leave, source_releases_starting, h2Gate_eq, h2AfterClose_eq, h2Aclose_eq]
  case settle now =>
    split
    · exact h
    -- the three outcomes of `_response_closed`: closed after GOAWAY, idle (or closed: ids used up), nothing
    · by_cases ht : g.c.terminated = true ∧ g.c.streams = 0
      · simp only [ht, and_self, if_true]; grind
      · by_cases hi : g.c.st = .active ∧ g.c.streams = 0 ∧ g.c.starting = 0
        · simp only [ht, hi, and_self, if_true, if_false]; constructor <;> grind
        · simp only [ht, hi, if_false]; grind
  all_goals grind

theorem inv2_run (g : G2) (ops : List Op2) (h : Inv2 g) : Inv2 (run2 g ops) :=
  List.foldlRecOn ops step2 h fun g h op _ => inv2_step g op h

/-- **in_use_never_idle** (C12, C09, C01) - for every `keepalive_expiry` and every sequence of operations (requests arriving,
opening their streams or backing out, responses being closed - with anything else happening between the two halves of
`_response_closed` -, GOAWAY, I/O failures, closes from outside): while a request has
been accepted and its response has not been closed (it holds a stream, or is still waiting for the connection set-up / a stream
slot / a stream id), the connection does not call itself idle. -/
theorem h2_in_use_never_idle (ka : Option Nat) (ops : List Op2) :
    (run2 (init2 ka) ops).inUse → Gen.h2IsIdle (run2 (init2 ka) ops).c = false := by
  have h := inv2_run _ ops (inv2_init ka)
  intro hu
  simp only [Gen.h2IsIdle]
  unfold G2.inUse at hu
  have := h.idle_unused
  grind

/-- **in_use_never_expires** - ... and its keep-alive expiry is not running: `has_expired()` is false at every clock reading,
unless the connection has been closed already. -/
theorem h2_in_use_never_expires (ka : Option Nat) (ops : List Op2) (now : Nat) :
    (run2 (init2 ka) ops).inUse → (run2 (init2 ka) ops).c.st ≠ .closed →
    Gen.h2HasExpired (run2 (init2 ka) ops).c now = false := by
  have h := inv2_run _ ops (inv2_init ka)
  intro hu hc
  simp only [Gen.h2HasExpired]
  unfold G2.inUse at hu
  have h2 := h.idle_unused
  have h3 := h.never_new
  have h4 : (run2 (init2 ka) ops).c.expireAt = none := h.expiry_only_idle (by cases hst : (run2 (init2 ka) ops).c.st <;> grind)
  simp [h4]

theorem expiry_exact_of_inv2 (g : G2) (h : Inv2 g) (now : Nat) (hi : g.c.st = .idle) :
    Gen.h2HasExpired g.c now = (match g.idleSince, g.c.ka with | some t, some k => decide (now > t + k) | _, _ => false) := by
  have h5 := h.expiry_some hi
  have h6 := h.expiry_none hi
  simp only [Gen.h2HasExpired]
  cases hs : g.idleSince <;> cases hk : g.c.ka <;> simp_all

/-- **expiry_exact** (C09) - an idle connection that went idle at time `t` with `keepalive_expiry = k` reports itself expired
exactly when the clock is beyond `t + k`; with no `keepalive_expiry` (or before its first use) never. -/
theorem h2_expiry_exact (ka : Option Nat) (ops : List Op2) (now : Nat) :
    let g := run2 (init2 ka) ops
    g.c.st = .idle →
    Gen.h2HasExpired g.c now = (match g.idleSince, g.c.ka with | some t, some k => decide (now > t + k) | _, _ => false) :=
  fun hi => expiry_exact_of_inv2 _ (inv2_run _ ops (inv2_init ka)) now hi

/-- the keep-alive parameter never changes -/
theorem h2_ka_const (g : G2) (op : Op2) : (step2 g op).c.ka = g.c.ka := by
  cases op <;> simp only [step2, leave, h2Gate_eq, h2AfterClose_eq, h2Aclose_eq] <;> grind

/-- **closed_is_final** (C01: "otherwise it is closed and never reused") - once CLOSED, no operation brings the connection back and
the gate turns every request away. -/
theorem h2_closed_is_final (g : G2) (op : Op2) (h : g.c.st = .closed) :
    (step2 g op).c.st = .closed ∧ (Gen.h2Gate { g.c with raised := false }).raised = true := by
  constructor
  · cases op <;> simp only [step2, leave, h2Gate_eq, h2AfterClose_eq, h2Aclose_eq] <;> grind
  · simp [h2Gate_eq, h]

/-- a closed, failed, used-up or GOAWAY'd connection is never offered to the pool -/
theorem h2_unusable_not_available (c : H2) (h : c.st = .closed ∨ c.connErr = true ∨ c.usedAll = true ∨ c.h2Closed = true) :
    Gen.h2IsAvailable c = false := by
  simp only [Gen.h2IsAvailable]; grind

/-- **failed_io_takes_connection_out_of_service** (C01: "otherwise it is closed and never reused") - Tie A + the translated predicate: every
handler that records a read or write failure also sets `_connection_error`, and a connection with that flag is not available, whatever
its other flags say - so no later request is assigned to it (`C09.assigned_is_available_or_new`). -/
theorem failed_io_takes_connection_out_of_service (c : H2) (h : c.connErr = true) :
    Gen.h2IoFailureMarksConnection = true ∧ Gen.h2IsAvailable c = false :=
  ⟨by decide, h2_unusable_not_available c (Or.inr (Or.inl h))⟩

/-- a response close that leaves no stream and no starting request behind arms the expiry at exactly `now + keepalive_expiry` -/
theorem h2_last_close_arms_expiry (g : G2) (now k : Nat) (hi : Inv2 g) (ha : g.c.st = .active) (h1 : g.c.streams = 0)
    (hc : g.closing ≠ 0) (hp : g.pending = 0) (ht : g.c.terminated = false) (hu : g.c.usedAll = false) (hk : g.c.ka = some k) :
    (step2 g (.settle now)).c.st = .idle ∧ (step2 g (.settle now)).c.expireAt = some (now + k) := by
  have hs : g.c.starting = 0 := hi.starting_exact.trans hp
  simp [step2, hc, h2AfterClose_eq, ha, h1, hs, ht, hu, hk]

/-- httpcore 1.0.7 (and this tree before the repair): with one request waiting for a stream slot, closing the only open response
made the connection IDLE with its expiry running; the waiting request then opened its stream on a connection that calls itself
idle and expires under it.  (Replayed on the implementation: finding F-C12-e.) -/
theorem idle_with_stream_107 :
    let c0 : H2 := { st := .active, ka := some 5, streams := 1 }        -- A holds the only slot, B is waiting for it
    let c1 := afterClose107 { c0 with streams := c0.streams - 1 } 100   -- A's response is closed at time 100
    let c2 := { c1 with streams := c1.streams + 1 }                     -- B opens its stream
    Gen.h2IsIdle c2 = true ∧ c2.streams = 1 ∧ Gen.h2HasExpired c2 106 = true := by
  decide

instance (g : G2) : Decidable g.inUse := by unfold G2.inUse; infer_instance

/-- non-vacuity: a run in which a request waits while another one finishes, under the current source -/
example : let g := run2 (init2 (some 5)) [.request, .opened, .request, .streamEnded, .settle 100, .opened]
    g.inUse ∧ g.c.st = .active ∧ Gen.h2HasExpired g.c 1000 = false := by decide

/-! ## HTTP/1.1 -/

structure Inv1 (g : G1) : Prop where
  idle_complete : g.c.st = .idle → g.exchangeOpen = false ∧ g.c.ourDone = false ∧ g.c.theirDone = false
  new_unused : g.c.st = .new → g.exchangeOpen = false ∧ g.accepted = 0
  active_open : g.c.st = .active → g.exchangeOpen = true
  expiry_only_idle : g.c.st = .active ∨ g.c.st = .new → g.c.expireAt = none
  open_no_expiry : g.exchangeOpen = true → g.c.expireAt = none
  idle_has_since : g.c.st = .idle → g.idleSince ≠ none
  expiry_some : g.c.st = .idle → ∀ t k, g.idleSince = some t → g.c.ka = some k → g.c.expireAt = some (t + k)
  expiry_none : g.c.st = .idle → g.c.ka = none → g.c.expireAt = none
  count_exact : g.c.count = g.accepted

theorem inv1_init (ka : Option Nat) : Inv1 (init1 ka) := by
  constructor <;> simp [init1]

attribute [local grind] Inv1 in
theorem inv1_step (g : G1) (op : Op1) (h : Inv1 g) : Inv1 (step1 g op) := by
  cases op <;> simp only [step1, h1Gate_eq, h1ResponseClosed_eq, h1Aclose_eq]
  case responseClosed => constructor <;> grind
  all_goals grind

theorem inv1_run (g : G1) (ops : List Op1) (h : Inv1 g) : Inv1 (run1 g ops) :=
  List.foldlRecOn ops step1 h fun g h op _ => inv1_step g op h

/-- **h1_available_means_complete** (C01) - for every sequence of operations: an HTTP/1.1 connection offers itself to the pool
only when no exchange is open on it, and then h11 has started a fresh cycle. -/
theorem h1_available_means_complete (ka : Option Nat) (ops : List Op1) :
    let g := run1 (init1 ka) ops
    Gen.h1IsAvailable g.c = true → g.exchangeOpen = false ∧ g.c.ourDone = false ∧ g.c.theirDone = false := by
  intro g ha
  have h := inv1_run _ ops (inv1_init ka)
  simp only [Gen.h1IsAvailable] at ha
  exact h.idle_complete (by simpa using ha)

/-- **h1_reuse_only_after_both_done** (C01) - the only way into IDLE is a `_response_closed` that finds both h11 sides DONE;
every other end of an exchange closes the connection. -/
theorem h1_reuse_only_after_both_done (g : G1) (now : Nat) (hopen : g.exchangeOpen = true) :
    ((step1 g (.responseClosed now)).c.st = .idle ↔ (g.c.ourDone = true ∧ g.c.theirDone = true)) ∧
    (¬ (g.c.ourDone = true ∧ g.c.theirDone = true) → (step1 g (.responseClosed now)).c.st = .closed) := by
  simp only [step1, h1ResponseClosed_eq, h1Aclose_eq]
  grind

theorem h1_idle_only_via_response_closed (g : G1) (op : Op1) (h0 : g.c.st ≠ .idle) (h1 : (step1 g op).c.st = .idle) :
    ∃ now, op = .responseClosed now ∧ g.c.ourDone = true ∧ g.c.theirDone = true := by
  cases op
  case responseClosed now =>
    refine ⟨now, rfl, ?_⟩
    simp only [step1, h1ResponseClosed_eq, h1Aclose_eq] at h1
    grind
  all_goals (simp only [step1, h1Gate_eq, h1Aclose_eq] at h1; exfalso; grind)

theorem in_use_of_inv1 (g : G1) (h : Inv1 g) (now : Nat) (readable : Bool) (ha : g.c.st = .active) :
    Gen.h1IsIdle g.c = false ∧ Gen.h1HasExpired g.c now readable = false := by
  have h4 : g.c.expireAt = none := h.expiry_only_idle (Or.inl ha)
  simp [Gen.h1IsIdle, Gen.h1HasExpired, h4, ha]

/-- **h1_in_use_never_expires** (C09) - a connection with an exchange open (ACTIVE) is neither idle nor expired, whatever the
clock and whether or not the socket is readable (response bytes make it readable). -/
theorem h1_in_use_never_expires (ka : Option Nat) (ops : List Op1) (now : Nat) (readable : Bool) :
    let g := run1 (init1 ka) ops
    g.c.st = .active → Gen.h1IsIdle g.c = false ∧ Gen.h1HasExpired g.c now readable = false :=
  fun ha => in_use_of_inv1 _ (inv1_run _ ops (inv1_init ka)) now readable ha

theorem expiry_exact_of_inv1 (g : G1) (h : Inv1 g) (now : Nat) (readable : Bool) (hi : g.c.st = .idle) :
    ∃ t, g.idleSince = some t ∧
      Gen.h1HasExpired g.c now readable = ((match g.c.ka with | some k => decide (now > t + k) | none => false) || readable) := by
  have h5 := h.idle_has_since hi
  have h6 := h.expiry_some hi
  have h7 := h.expiry_none hi
  cases hs : g.idleSince with
  | none => exact absurd hs h5
  | some t =>
    refine ⟨t, rfl, ?_⟩
    simp only [Gen.h1HasExpired]
    cases hk : g.c.ka <;> simp_all

/-- **h1_expiry_exact** (C09) - an idle connection (idle since `t`) is expired exactly when the clock is beyond
`t + keepalive_expiry` or the server has closed it (socket readable while idle). -/
theorem h1_expiry_exact (ka : Option Nat) (ops : List Op1) (now : Nat) (readable : Bool) :
    let g := run1 (init1 ka) ops
    g.c.st = .idle →
    ∃ t, g.idleSince = some t ∧
      Gen.h1HasExpired g.c now readable = ((match g.c.ka with | some k => decide (now > t + k) | none => false) || readable) :=
  fun hi => expiry_exact_of_inv1 _ (inv1_run _ ops (inv1_init ka)) now readable hi

/-- the request counter counts exactly the requests the gate let in -/
theorem h1_count_exact (ka : Option Nat) (ops : List Op1) :
    (run1 (init1 ka) ops).c.count = (run1 (init1 ka) ops).accepted :=
  (inv1_run _ ops (inv1_init ka)).count_exact

/-- **h1_closed_is_final_partial** (C01: "otherwise it is closed and never reused").  Full statement: once CLOSED, no operation
brings the connection object back.  Proved: every operation except a `_response_closed` that finds both h11 sides DONE keeps it
CLOSED, and the gate turns every request away.  The excluded case is real at the level of the object (`h1_closed_revives`): it
needs `aclose()` from outside *during* an exchange whose response is then completed from data h11 has already buffered.  The
pool never does that to a connection it keeps (it closes only connections it has removed from its list; `pool.aclose()` empties
the list), so no pooled history reaches it. -/
theorem h1_closed_is_final_partial (g : G1) (op : Op1) (h : g.c.st = .closed)
    (hop : ∀ now, op = .responseClosed now → ¬ (g.exchangeOpen = true ∧ g.c.ourDone = true ∧ g.c.theirDone = true)) :
    (step1 g op).c.st = .closed ∧ (Gen.h1Gate { g.c with raised := false }).raised = true := by
  constructor
  · cases op <;> simp only [step1, h1Gate_eq, h1ResponseClosed_eq, h1Aclose_eq] <;> grind
  · simp [h1Gate_eq, h]

/-- witness for the excluded case: closed from outside during an exchange, then the response completes -/
theorem h1_closed_revives :
    (run1 (init1 none) [.request, .aclose, .progress true true]).c.st = .closed ∧
    (run1 (init1 none) [.request, .progress true true, .aclose, .responseClosed 7]).c.st = .idle := by decide

/-- the gate lets at most one request in between two response closes: a second request on an ACTIVE connection is refused -/
theorem h1_gate_exclusive (g : G1) (h : g.c.st = .active) : (Gen.h1Gate { g.c with raised := false }).raised = true := by
  simp [h1Gate_eq, h]

/-- non-vacuity -/
example : let g := run1 (init1 (some 5)) [.request, .progress true true, .responseClosed 10]
    g.c.st = .idle ∧ Gen.h1HasExpired g.c 15 false = false ∧ Gen.h1HasExpired g.c 16 false = true ∧
    Gen.h1HasExpired g.c 11 true = true := by decide

/-! ## composition with the pool pass -/

open Httpcore.Pool in
/-- The pool sees a connection through its status predicates.  `view2 now id origin c` is what the pass reads from an HTTP/2
connection object at clock reading `now`. -/
def view2 (now : Nat) (id origin : Nat) (c : H2) : Pool.Conn :=
  { id := id, origin := origin, closed := Gen.h2IsClosed c, expired := Gen.h2HasExpired c now,
    idle := Gen.h2IsIdle c, available := Gen.h2IsAvailable c }

open Httpcore.Pool in
/-- what the pass reads from an HTTP/1.1 connection object at clock reading `now`, with the socket readable or not -/
def view1 (now : Nat) (readable : Bool) (id origin : Nat) (c : H1) : Pool.Conn :=
  { id := id, origin := origin, closed := Gen.h1IsClosed c, expired := Gen.h1HasExpired c now readable,
    idle := Gen.h1IsIdle c, available := Gen.h1IsAvailable c }

/-- **in-use HTTP/1.1 connection, as the pool sees it**: not expired (even though response bytes make its socket readable), not idle,
not closed, not available. -/
theorem h1_in_use_view (ka : Option Nat) (ops : List Op1) (now : Nat) (readable : Bool) (id origin : Nat) :
    let g := run1 (init1 ka) ops
    g.c.st = .active →
    (view1 now readable id origin g.c).expired = false ∧ (view1 now readable id origin g.c).idle = false ∧
    (view1 now readable id origin g.c).closed = false ∧ (view1 now readable id origin g.c).available = false := by
  intro g ha
  obtain ⟨h1, h2⟩ := h1_in_use_never_expires ka ops now readable ha
  refine ⟨h2, h1, ?_, ?_⟩
  · simp [view1, Gen.h1IsClosed, show g.c.st = .active from ha]
  · simp [view1, Gen.h1IsAvailable, show g.c.st = .active from ha]

/-- **in-use HTTP/2 connection, as the pool sees it**: not expired and not idle - so the only branches of the house-keeping loop
that could take it are "closed" (it is not) and "abandoned" (which spares every connection held by a request). -/
theorem h2_in_use_view (ka : Option Nat) (ops : List Op2) (now id origin : Nat) :
    let g := run2 (init2 ka) ops
    g.inUse → g.c.st ≠ .closed →
    (view2 now id origin g.c).expired = false ∧ (view2 now id origin g.c).idle = false ∧ (view2 now id origin g.c).closed = false := by
  intro g hu hc
  refine ⟨h2_in_use_never_expires ka ops now hu hc, h2_in_use_never_idle ka ops hu, ?_⟩
  simp [view2, Gen.h2IsClosed, hc]

/-- **h2_state_cases** (C05) - every reachable state of an HTTP/2 connection object is one of four: closed; in use (then ACTIVE);
unused and IDLE (it can be reused, expire or be evicted); or unused and still ACTIVE - the state a request leaves behind when it
goes away before it has opened its stream and nobody else is using the connection.  The pool reclaims exactly that last one
(`h2_abandoned_reclaimed`, `C05Pool.no_abandoned_after_pass`). -/
theorem h2_state_cases (ka : Option Nat) (ops : List Op2) :
    let g := run2 (init2 ka) ops
    g.c.st = .closed ∨ (g.inUse ∧ g.c.st = .active) ∨ (¬ g.inUse ∧ g.c.st = .idle) ∨ (¬ g.inUse ∧ g.c.st = .active) := by
  intro g
  have h : Inv2 g := inv2_run _ ops (inv2_init ka)
  have h2 := h.idle_unused
  have h3 := h.never_new
  unfold G2.inUse
  cases hst : g.c.st <;> grind

open Httpcore.Pool in
/-- **h2_abandoned_reclaimed** (C05) - an HTTP/2 connection that is ACTIVE with nobody on it and that no queued request holds is
closed by the house-keeping loop of the very next pass (reason: abandoned), with the clean-up rule of the current source. -/
theorem h2_abandoned_reclaimed (cfg : Cfg) (hre : cfg.reclaimAbandoned = true) (res : List Nat) (now id origin : Nat) (c : H2)
    (rest cur : List Conn) (closing : List (Conn × Reason))
    (hst : c.st = .active) (hexp : c.expireAt = none) (hres : isReserved res (view2 now id origin c) = false) :
    cleanup cfg res (view2 now id origin c :: rest) cur closing =
      cleanup cfg res rest (cur.erase (view2 now id origin c)) (closing ++ [(view2 now id origin c, .abandoned)]) := by
  have h1 : (view2 now id origin c).closed = false := by simp [view2, Gen.h2IsClosed, hst]
  have h2 : (view2 now id origin c).expired = false := by simp [view2, Gen.h2HasExpired, hexp]
  have h3 : (view2 now id origin c).idle = false := by simp [view2, Gen.h2IsIdle, hst]
  simp [cleanup, h1, h2, h3, hre, hres]

/-- in the abandoned state the expiry is not armed (so the clause `hexp` above is met in every reachable state) -/
theorem h2_active_no_expiry (ka : Option Nat) (ops : List Op2) :
    (run2 (init2 ka) ops).c.st = .active → (run2 (init2 ka) ops).c.expireAt = none :=
  (inv2_run _ ops (inv2_init ka)).expiry_only_idle

/-! ## the network stream of an HTTP/1.1 connection (C06, C17) -/

/-- out of service only with the network stream closed -/
def SockClosed (g : G1) : Prop := g.c.st = .closed → 0 < g.c.sockCloses

theorem sock_step (g : G1) (op : Op1) (h : SockClosed g) : SockClosed (step1 g op) := by
  unfold SockClosed at *
  cases op <;> simp only [step1, h1Gate_eq, h1Aclose_eq, h1ResponseClosed_eq] <;> grind

/-- **h1_out_of_service_means_stream_closed** (C06) - for every sequence of operations: an HTTP/1.1 connection that reports itself closed
(the pool then drops it without closing it) has had its network stream closed; with the source's `_response_closed` / `aclose` / gate
as they are now (regenerated). -/
theorem h1_out_of_service_means_stream_closed (ka : Option Nat) (ops : List Op1) :
    Gen.h1IsClosed (run1 (init1 ka) ops).c = true → 0 < (run1 (init1 ka) ops).c.sockCloses := by
  intro hc
  have h : SockClosed (run1 (init1 ka) ops) := List.foldlRecOn ops step1 nofun fun g h op _ => sock_step g op h
  exact h (by simpa [Gen.h1IsClosed] using hc)

/-- **h1_unfinished_exchange_closes_stream** (C06, C17) - an exchange that ends with either h11 side not DONE - a switched protocol
(101, CONNECT 2xx: `their_state` is SWITCHED_PROTOCOL), `Connection: close`, an error, an abandoned body - closes the network stream in
`_response_closed` itself and takes the connection out of service: it is never offered to the pool again and never left open. -/
theorem h1_unfinished_exchange_closes_stream (g : G1) (now : Nat) (hopen : g.exchangeOpen = true)
    (hnd : ¬ (g.c.ourDone = true ∧ g.c.theirDone = true)) :
    let g' := step1 g (.responseClosed now)
    g'.c.sockCloses = g.c.sockCloses + 1 ∧ g'.c.st = .closed ∧ Gen.h1IsAvailable g'.c = false ∧ Gen.h1IsIdle g'.c = false := by
  simp only [step1, h1ResponseClosed_eq, h1Aclose_eq, Gen.h1IsAvailable, Gen.h1IsIdle]
  grind

/-! non-vacuity: a request whose response switches protocols, closed by the caller -/
example : (run1 (init1 (some 5)) [.request, .progress true false, .responseClosed 3]).c.sockCloses = 1 ∧
    (run1 (init1 (some 5)) [.request, .progress true false, .responseClosed 3]).c.st = .closed := by decide


end Httpcore.LifeProps
