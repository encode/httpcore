import HttpcoreModel.Backend
import HttpcoreModel.Generated
/-!
# The sync back end's write loop (used by C03): whatever the kernel accepts per `send`, the bytes leave in order, once each.
-/
namespace Httpcore.BackendProps
open Httpcore Httpcore.Backend

theorem writeLoop_eq (buf : Bytes) (sends : List Nat) :
    (writeLoop buf sends).1.flatten = buf.take sends.sum ∧ (writeLoop buf sends).2 = buf.drop sends.sum := by
  fun_induction writeLoop buf sends with
  | case1 | case2 => simp
  | case3 b bs n ns r ih => simp only [r, List.flatten_cons, List.sum_cons, ih, List.take_add, List.drop_drop, and_self]

/-- **write_nothing_lost_or_reordered** - at every moment of the loop, for every sequence of partial sends (including zero-length
and over-long answers): what has been handed to the kernel so far, followed by what is still in the buffer, is exactly the buffer
`write` was called with. -/
theorem write_nothing_lost_or_reordered (buf : Bytes) (sends : List Nat) :
    (writeLoop buf sends).1.flatten ++ (writeLoop buf sends).2 = buf := by
  rw [(writeLoop_eq buf sends).1, (writeLoop_eq buf sends).2, List.take_append_drop]

theorem length_le_sum {l : List Nat} (h : ∀ n ∈ l, 1 ≤ n) : l.length ≤ l.sum := by
  induction l with
  | nil => simp
  | cons a t ih =>
    have := h a (List.mem_cons_self ..)
    have := ih fun n hn => h n (List.mem_cons_of_mem _ hn)
    simp only [List.length_cons, List.sum_cons]
    omega

/-- **write_complete** - a blocking `send` accepts at least one byte per call; then after at most `len(buffer)` calls the loop has
ended and the concatenation of the pieces is exactly the buffer. -/
theorem write_complete (buf : Bytes) (sends : List Nat) (hpos : ∀ n ∈ sends, 1 ≤ n) (hlen : buf.length ≤ sends.length) :
    (writeLoop buf sends).2 = [] ∧ (writeLoop buf sends).1.flatten = buf := by
  have := length_le_sum hpos
  rw [(writeLoop_eq buf sends).1, (writeLoop_eq buf sends).2, List.drop_eq_nil_of_le (by omega), List.take_of_length_le (by omega)]
  exact ⟨rfl, rfl⟩

/-- what the kernel accepted never adds up to more than the buffer holds, even when `send` answers with more than it was given -/
theorem pieces_bounded (buf : Bytes) (sends : List Nat) : ((writeLoop buf sends).1.map List.length).sum ≤ buf.length := by
  rw [← List.length_flatten, (writeLoop_eq buf sends).1]
  exact List.length_take_le' ..

/-- Tie A: the loop in the source has the modelled shape -/
theorem source_write_loop : Gen.syncWriteLoopShape = true := by decide

example : writeLoop [1, 2, 3, 4, 5] [2, 1, 9] = ([[1, 2], [3], [4, 5]], []) := by decide +kernel

end Httpcore.BackendProps
