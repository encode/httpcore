import HttpcoreModel.Lemmas.UrlRender
/-!
# C19 — URL, origin and default-header semantics (property theorems only)
-/
namespace Httpcore.C19
open Httpcore Httpcore.Url

/-- `parse` with the error forgotten (gives a decidable equality for concrete examples) -/
def parseOk (raw : Bytes) : Option URL :=
  match parse raw with
  | .ok u => some u
  | .error _ => none

/-- **C19.parse_render** — for every well-formed component tuple (any scheme text, optional
userinfo, reg-name / IPv4 / bracketed IPv6 host in any case, optional port digits, any path incl.
`;` parameters, dot segments and escapes, optional query, optional fragment) parsing the rendered URL
yields exactly what RFC 3986 component splitting yields: lower-cased scheme and host (brackets
stripped), the port, and the *complete* path plus the non-empty query; no fragment, no userinfo.

`_partial`: `Comp.WF` excludes a `%` inside a reg-name host (known finding F-C19-d, see
`host_percent_counterexample`). -/
theorem parse_render_partial (c : Comp) (h : c.WF) : parse c.render = .ok c.expected := by
  have hparam : Gen.urlUsesParamSplit = false := rfl
  simp only [parse, any_ge_of_clean (render_bytes h), sanitize_of_clean (render_bytes h),
    splitScheme_render h, splitNetloc_render h, Option.getD_some, netloc_brackets h, partition_tail h,
    partition_pathQuery h, hostinfo_netloc h, parsePort_port h, hostnameOf_host h, hparam]
  -- what is left is the check of the bracket content
  cases h6 : c.ipv6 with
  | false => rfl
  | true =>
    rw [if_pos rfl, bracket_content h h6, if_pos (h.host6 h6).1]
    rfl

/-- the full statement fails for a reg-name host containing `%`: the text after it keeps its case -/
theorem host_percent_counterexample :
    parseOk (ascii "http://A%2DB/") =
      some { scheme := ascii "http", host := ascii "a%2DB", port := none, target := ascii "/" } := by
  decide

/-- **C19.parse_scheme_lower_host_lower** — corollary in the words of the property. -/
theorem parse_scheme_lower_host_lower (c : Comp) (h : c.WF) :
    ∃ u, parse c.render = .ok u ∧ u.scheme = lower c.scheme ∧ u.host = lower c.host ∧
      (c.path ≠ [] → ∃ rest, u.target = c.path ++ rest) :=
  ⟨c.expected, parse_render_partial c h, rfl, rfl, fun hp =>
    ⟨(match c.query with | some q => if q.isEmpty then [] else 63 :: q | none => []),
      by simp [Comp.expected, hp]; cases c.query <;> simp⟩⟩

def supported : List Bytes := [ascii "http", ascii "https", ascii "ws", ascii "wss"]

/-- `URL.origin` in one line: the port falls back to the scheme's default (`originPortUsesOr` is off,
so an explicit port 0 stays 0). -/
theorem origin_eq (u : URL) :
    origin u = (lookup u.scheme Gen.originDefaultPorts).map fun d =>
      { scheme := u.scheme, host := u.host, port := u.port.getD d } := by
  unfold origin
  cases lookup u.scheme Gen.originDefaultPorts <;> cases u.port <;> simp [Gen.originPortUsesOr]

/-- **C19.origin_ports (a)** — an explicit default port and no port give the same origin,
for every supported scheme and every host. -/
theorem origin_ports (scheme host target target' : Bytes) (hs : scheme ∈ supported) :
    ∃ d, lookup scheme Gen.originDefaultPorts = some d ∧
      origin { scheme, host, port := some d, target } =
      origin { scheme, host, port := none, target := target' } := by
  have : ∀ s ∈ supported, (lookup s Gen.originDefaultPorts).isSome = true := by decide
  obtain ⟨d, hd⟩ := Option.isSome_iff_exists.mp (this scheme hs)
  exact ⟨d, hd, by simp [origin_eq, hd]⟩

/-- the default ports are the registered ones -/
theorem default_ports :
    lookup (ascii "http") Gen.originDefaultPorts = some 80 ∧
    lookup (ascii "https") Gen.originDefaultPorts = some 443 ∧
    lookup (ascii "ws") Gen.originDefaultPorts = some 80 ∧
    lookup (ascii "wss") Gen.originDefaultPorts = some 443 ∧
    lookup (ascii "http") Gen.hostDefaultPorts = some 80 ∧
    lookup (ascii "https") Gen.hostDefaultPorts = some 443 ∧
    lookup (ascii "ws") Gen.hostDefaultPorts = some 80 ∧
    lookup (ascii "wss") Gen.hostDefaultPorts = some 443 := by decide

/-- effective port of a URL: the explicit one, else the scheme's default -/
def effectivePort (u : URL) : Option Nat :=
  match u.port with
  | some p => some p
  | none => lookup u.scheme Gen.originDefaultPorts

/-- **C19.origin_eq_iff** — two URLs (whose schemes have a default port) have equal origins iff
scheme, host and effective port are equal: any difference in one of them separates them, including
an explicit port 0. -/
theorem origin_eq_iff (u v : URL) (ou ov : Origin) (hu : origin u = some ou) (hv : origin v = some ov) :
    ou = ov ↔ (u.scheme = v.scheme ∧ u.host = v.host ∧ effectivePort u = effectivePort v) := by
  rw [origin_eq] at hu hv
  obtain ⟨du, hdu, rfl⟩ := Option.map_eq_some_iff.mp hu
  obtain ⟨dv, hdv, rfl⟩ := Option.map_eq_some_iff.mp hv
  cases hpu : u.port <;> cases hpv : v.port <;> simp [effectivePort, hpu, hpv, hdu, hdv]

/-- **C19.origin_distinguishes** — changing exactly one of scheme / host / effective port changes
the origin (so such URLs never share a connection, C10). -/
theorem origin_distinguishes (u v : URL) (ou ov : Origin) (hu : origin u = some ou)
    (hv : origin v = some ov)
    (hdiff : u.scheme ≠ v.scheme ∨ u.host ≠ v.host ∨ effectivePort u ≠ effectivePort v) :
    ou ≠ ov := fun heq => by
  obtain ⟨h1, h2, h3⟩ := (origin_eq_iff u v ou ov hu hv).mp heq
  exact hdiff.elim (· h1) (·.elim (· h2) (· h3))

/-- rendering of a parsed URL as components (used by `roundtrip`) -/
def compOf (u : URL) (path : Bytes) (query : Option Bytes) : Comp :=
  { scheme := u.scheme, userinfo := none, host := u.host, ipv6 := u.host.contains 58,
    port := u.port.map decimal, path := path, query := query, fragment := none }

/-- the `uri-host` form of a host: an IPv6 literal in brackets, anything else as is -/
def uriHostSpec (host : Bytes) (isIPv6 : Bool) : Bytes := if isIPv6 then 91 :: host ++ [93] else host

theorem uriHost_eq {h : Bytes} (hnb : h.head? ≠ some 91) :
    uriHost h = uriHostSpec h (h.contains 58) := by
  simp [uriHost, uriHostSpec, hnb]

theorem toBytes_eq (u : URL) :
    toBytes u =
      u.scheme ++ 58 :: 47 :: 47 :: (uriHost u.host ++ optPre 58 (u.port.map decimal) ++ u.target) := by
  cases h : u.port <;> simp [toBytes, h, optPre, ascii]

theorem toBytes_eq_render {u : URL} {path : Bytes} {query : Option Bytes}
    (hw : (compOf u path query).WF) (ht : u.target = path ++ optPre 63 query) :
    toBytes u = (compOf u path query).render := by
  have hhead : u.host.head? ≠ some 91 := fun hc =>
    not_mem_of (host_bytes hw) (by simp) (List.mem_of_mem_head? hc)
  simp [toBytes_eq, uriHost_eq hhead, uriHostSpec, ht, Comp.render, Comp.netloc, Comp.hostPort,
    Comp.hostText, Comp.tail, Comp.pathQuery, compOf, optPre]

/-- on the parser's image `compOf` is a right inverse of `Comp.expected` -/
theorem expected_compOf (u : URL) {path : Bytes} {query : Option Bytes}
    (hpath : path ≠ []) (hq : ∀ q, query = some q → q ≠ []) :
    (compOf u path query).expected =
      { scheme := lower u.scheme, host := lower u.host, port := u.port,
        target := path ++ optPre 63 query } := by
  simp only [Comp.expected, compOf, URL.mk.injEq, true_and]
  constructor
  · cases u.port with
    | none => rfl
    | some p =>
      simp only [Option.map]
      cases hd : decimal p with
      | nil => exact absurd hd (decimal_ne_nil p)
      | cons d ds => simp [← hd, digitsToNat_decimal]
  · cases query with
    | none => simp [optPre, hpath]
    | some q => simp [optPre, hpath, hq q rfl]

/-- **C19.roundtrip** — serialising a URL parses back to an equal URL: for every URL whose fields
are in the image of the parser on well-formed input (lower-case scheme and host, port ≤ 65535, target
= path ++ optional non-empty query), `URL(bytes(u)) = u`; IPv6 hosts included. -/
theorem roundtrip (u : URL) (path : Bytes) (query : Option Bytes)
    (hw : (compOf u path query).WF)
    (hs : lower u.scheme = u.scheme) (hh : lower u.host = u.host)
    (hpath : path ≠ []) (hq : ∀ q, query = some q → q ≠ [])
    (ht : u.target = path ++ optPre 63 query) (hp : ∀ p, u.port = some p → p ≤ 65535) :
    parse (toBytes u) = .ok u := by
  have _ := hp -- not needed: `hw.port_ok` already bounds the port
  rw [toBytes_eq_render hw ht, parse_render_partial _ hw, expected_compOf u hpath hq, hs, hh, ← ht]

/-- **C19.host_header** — the synthesised Host value is `uri-host [":" port]`: IPv6 literals in
brackets, and the port appears exactly when it is present and not the scheme's default. -/
theorem host_header (u : URL) (isIPv6 : Bool) (hv6 : u.host.contains 58 = isIPv6)
    (hnb : u.host.head? ≠ some 91) :
    hostHeaderValue u =
      match u.port with
      | none => uriHostSpec u.host isIPv6
      | some p =>
        if some p = lookup u.scheme Gen.hostDefaultPorts then uriHostSpec u.host isIPv6
        else uriHostSpec u.host isIPv6 ++ 58 :: decimal p := by
  subst hv6
  rw [hostHeaderValue, uriHost_eq hnb]
  cases u.port <;> simp

/-- **C19.host_header_only_if_missing** — a Host header is added (in first position) iff the
caller gave none, case-insensitively; the caller's headers follow unchanged, in order. -/
theorem host_header_only_if_missing (hs : List Header) (u : URL) :
    includeRequestHeaders hs u .none =
      if hasHeader (ascii "host") hs then hs else (ascii "Host", hostHeaderValue u) :: hs := by
  simp [includeRequestHeaders]

/-- **C19.framing_header_only_if_missing** — exactly one of Content-Length (bytes content) /
Transfer-Encoding: chunked (iterator content) is appended iff the caller gave neither. -/
theorem framing_header_only_if_missing (hs : List Header) (u : URL) (c : Content) :
    ∃ added, includeRequestHeaders hs u c = includeRequestHeaders hs u .none ++ added ∧
      added =
        (if hasHeader (ascii "content-length") hs || hasHeader (ascii "transfer-encoding") hs then []
         else match c with
           | .none => []
           | .bytes n => [(ascii "Content-Length", decimal n)]
           | .iter => [(ascii "Transfer-Encoding", ascii "chunked")]) := by
  refine ⟨_, ?_, rfl⟩
  by_cases h1 : hasHeader (ascii "content-length") hs = true <;>
  by_cases h2 : hasHeader (ascii "transfer-encoding") hs = true <;>
  cases c <;> simp [includeRequestHeaders, h1, h2]

/-- **C19.headers_keep_order** — the caller's header list survives as a contiguous, unchanged
block (order and duplicates kept). -/
theorem headers_keep_order (hs : List Header) (u : URL) (c : Content) :
    ∃ pre post, includeRequestHeaders hs u c = pre ++ hs ++ post := by
  obtain ⟨added, h1, _⟩ := framing_header_only_if_missing hs u c
  rw [h1, host_header_only_if_missing]
  by_cases h : hasHeader (ascii "host") hs = true
  · exact ⟨[], added, by simp [h]⟩
  · exact ⟨[(ascii "Host", hostHeaderValue u)], added, by simp [h]⟩

/-- **C19.enforce_ascii_iff** — text is accepted iff every code point is ASCII, and is then passed
through unchanged. -/
theorem enforce_ascii_iff (cps : List Nat) :
    (∃ b, enforceText cps = some b) ↔ (∀ x ∈ cps, x < 128) := by
  simp [enforceText]

/-! ### non-vacuity -/

def sample : Comp :=
  { scheme := ascii "HTTPs", userinfo := some (ascii "u:p"), host := ascii "fe80::A1", ipv6 := true,
    port := some (ascii "0443"), path := ascii "/a/./b;p=1", query := some (ascii "x=1;y"),
    fragment := some (ascii "f#") }

example : sample.render = ascii "HTTPs://u:p@[fe80::A1]:0443/a/./b;p=1?x=1;y#f#" := by decide +kernel
example : parseOk sample.render = some ⟨ascii "https", ascii "fe80::a1", some 443, ascii "/a/./b;p=1?x=1;y"⟩ := by
  decide +kernel

end Httpcore.C19
