import HttpcoreModel.Props.C13Multi  -- not used below: the check of C13 audits the theorems about interleaved uploads through this module
import HttpcoreModel.H2
/-!
# C13 — HTTP/2 flow control is obeyed and never starves a transfer
-/
namespace Httpcore.C13
open Httpcore Httpcore.H2

/-- **C13.upload_in_order** — for every window / frame-size state, every schedule of updates and every body chunk:
the DATA payloads, concatenated, followed by what is still unsent, are exactly the chunk - nothing lost, duplicated
or reordered. -/
theorem upload_in_order (w : SendState) (sched : List (List Update)) (data : List Nat) :
    ((sendData w sched data).emitted.map (·.1)).flatten ++ (sendData w sched data).left = data := by
  fun_induction sendData w sched data with
  | case1 => simp
  | case2 => simp
  | case3 _ _ _ _ _ _ ih => simpa using ih
  | case4 w sched d ds h n r ih =>
    simp only [List.map_cons, List.flatten_cons, List.append_assoc]
    rw [ih]
    exact List.take_append_drop n (d :: ds)

/-- **C13.send_within_window** — every DATA payload is non-empty and no longer than the stream window, the connection
window and the maximum frame size in force when it is sent. -/
theorem send_within_window (w : SendState) (sched : List (List Update)) (data : List Nat) :
    ∀ e ∈ (sendData w sched data).emitted,
      0 < e.1.length ∧ (e.1.length : Int) ≤ e.2.streamWin ∧ (e.1.length : Int) ≤ e.2.connWin ∧ e.1.length ≤ e.2.maxFrame := by
  fun_induction sendData w sched data with
  | case1 => simp
  | case2 => simp
  | case3 _ _ _ _ _ _ ih => exact ih
  | case4 w sched d ds h n r ih =>
    intro e he
    rcases List.mem_cons.mp he with rfl | he
    · obtain ⟨hpos, hle⟩ := chunk_bounds w (d :: ds).length (Bool.eq_false_iff.mpr h)
      rw [List.length_take_of_le (Nat.min_le_left ..)]
      exact ⟨hpos (Nat.succ_pos _), hle⟩
    · exact ih e he

/-- with an open window the first DATA frame takes `min(len, flow)` bytes, against the windows as they stood before it -/
theorem windows_charged (w : SendState) (data : List Nat) (hpos : Gen.flowWaits (flow w) = false) (hne : data ≠ []) :
    ∃ c rest, (sendData w [] data).emitted = (c, w) :: rest ∧ c = data.take (min data.length (flow w).toNat) := by
  cases data with
  | nil => exact absurd rfl hne
  | cons d ds =>
    rw [sendData]
    simp [hpos]

/-- **C13.stops_only_on_closed_window** — sending stops early only when the schedule of reads is exhausted *and* the
window is closed: with an open window and data left, the next step sends. -/
theorem stops_only_on_closed_window (w : SendState) (sched : List (List Update)) (data : List Nat) :
    (sendData w sched data).left ≠ [] → Gen.flowWaits (flow (sendData w sched data).final) = true := by
  fun_induction sendData w sched data with
  | case1 => simp
  | case2 w d ds h => intro _; exact h
  | case3 _ _ _ _ _ _ ih => exact ih
  | case4 w sched d ds h n r ih => exact ih

/-- the wait loop waits exactly while the usable window is not positive (regenerated from the source; a negative
window - possible after SETTINGS_INITIAL_WINDOW_SIZE is lowered - must wait too) -/
theorem waits_iff_no_window (f : Int) : Gen.flowWaits f = true ↔ f ≤ 0 := by
  simp [Gen.flowWaits]

theorem send_takes_min : Gen.sendTakesMinLenFlow = true := by decide

/-- **flow_wait_notices_reset** - Tie A (regenerated): an upload that waits for credit names its stream to the reader, and the reader -
with the read lock held, before it touches the network - raises RemoteProtocolError if a RST_STREAM has already been filed for that
stream (by whichever request was reading when it arrived): the wait ends as soon as credit can no longer come (finding F-C13-c). -/
theorem flow_wait_notices_reset : Gen.flowWaitSeesResets = true := by decide

/-- what the peer may still send + what is in httpcore's hands + what is acknowledged but not yet returned
= the maximum window -/
def WinInv (w : Win) : Prop := w.cur + w.pend + w.proc = w.max

theorem consume_inv (w w' : Win) (n : Nat) (h : WinInv w) (hc : w.consume n = some w') : WinInv w' := by
  unfold Win.consume at hc
  split at hc
  · cases hc; unfold WinInv at *; simp only []; omega
  · cases hc

/-- `process_bytes` under the invariant is all or nothing. What may be returned, `max - cur`, is `pend + proc`, so h2's cap
`min proc (max - cur)` never bites: either everything acknowledged so far goes back to the peer, or all of it is held, and
then it is at most half the window. -/
theorem process_cases (w : Win) (n : Nat) (h : WinInv w) (hn : n ≤ w.pend) :
    w.process n = ({ w with pend := w.pend - n, proc := w.proc + n }, 0) ∧ 2 * (w.proc + n) ≤ w.max ∨
    w.process n = ({ w with pend := w.pend - n, cur := w.cur + (w.proc + n), proc := 0 }, w.proc + n) := by
  unfold WinInv at h
  unfold Win.process
  simp only []
  split
  · exact .inl ⟨rfl, by omega⟩
  · split
    · exact .inr (by rw [Nat.min_eq_left (by omega)])
    · exact .inl ⟨rfl, by omega⟩

theorem process_inv (w : Win) (n : Nat) (h : WinInv w) (hn : n ≤ w.pend) : WinInv (w.process n).1 := by
  unfold WinInv at *
  rcases process_cases w n h hn with ⟨e, _⟩ | e <;> simp only [e] <;> omega

/-- **C13.credit_returned** — once httpcore has acknowledged everything it received (`pend = 0`, which it does per
DataReceived event consumed), at least half of the maximum window (rounded down) is open to the peer again: the peer can always
continue a response body, whatever its size. -/
theorem credit_returned (w : Win) (n : Nat) (h : WinInv w) (hn : n = w.pend) (hmax : 0 < w.max) :
    (w.process n).1.pend = 0 ∧ 2 * (w.process n).1.cur > w.max - 2 ∧ 0 < (w.process n).1.cur := by
  unfold WinInv at h
  rcases process_cases w n h (Nat.le_of_eq hn) with ⟨e, _⟩ | e <;> simp only [e] <;> omega

/-- the increment announced to the peer is exactly what is added to its window, and never overshoots the maximum -/
theorem increment_exact (w : Win) (n : Nat) (h : WinInv w) (hn : n ≤ w.pend) :
    (w.process n).1.cur = w.cur + (w.process n).2 ∧ (w.process n).1.cur ≤ w.max := by
  unfold WinInv at h
  rcases process_cases w n h hn with ⟨e, _⟩ | e <;> rw [e] <;> exact ⟨rfl, by simp only []; omega⟩

/-- httpcore acknowledges the flow-controlled length (payload + padding) of each DATA event (regenerated) -/
theorem ack_uses_flow_controlled_length : Gen.ackUsesFlowControlledLength = true := by decide

/-! non-vacuity -/
example : (sendData { streamWin := 5, connWin := 100, maxFrame := 3 } [[.streamWindow 4]] [1, 2, 3, 4, 5, 6, 7]).emitted.map (·.1)
    = [[1, 2, 3], [4, 5], [6, 7]] := by
  simp [sendData, flow, Gen.flowWaits, applyUpdate, applyAll, Int.min_def]
example : (sendData { streamWin := -5, connWin := 100, maxFrame := 3 } [[.streamWindow 4]] [1, 2]).left = [1, 2] := by
  simp [sendData, flow, Gen.flowWaits, applyUpdate, applyAll, Int.min_def]
example : WinInv { max := 100, cur := 40, pend := 60, proc := 0 } := by simp [WinInv]

end Httpcore.C13
