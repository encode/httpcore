import HttpcoreModel.Props.Wrap
import HttpcoreModel.Lemmas.PoolPass
import HttpcoreModel.Generated
/-!
# C07 — Waiting requests make progress whenever capacity exists (pool-pass theorems)
-/
namespace Httpcore.C07
open Httpcore.Pool

/-- nothing can be created or evicted: the pool is at its limit and no idle connection is free to be evicted -/
def Stuck (cfg : Cfg) (s : State) : Prop :=
  ¬ s.conns.length < cfg.maxConn ∧ freeIdle s = []

theorem freeIdle_reserve (s : State) (x : Nat) (h : freeIdle s = []) :
    freeIdle { s with reserved := x :: s.reserved } = [] :=
  List.eq_nil_iff_forall_not_mem.mpr fun c hc =>
    have ⟨h1, h2, h3⟩ := mem_freeIdle.mp hc
    List.eq_nil_iff_forall_not_mem.mp h c (mem_freeIdle.mpr ⟨h1, h2,
      isReserved_eq_false.mpr fun hm => isReserved_eq_false.mp h3 (List.mem_cons_of_mem _ hm)⟩)

/-- a stuck pool stays stuck and keeps its connections, whatever the request -/
theorem assignOne_stuck (cfg : Cfg) (s : State) (r : Req) (h : Stuck cfg s) :
    (assignOne cfg s r).1.conns = s.conns ∧ (assignOne cfg s r).1.closing = s.closing ∧ Stuck cfg (assignOne cfg s r).1 := by
  rcases assignOne_cases cfg s r with ⟨c, _, e⟩ | ⟨_, hroom, _⟩ | ⟨_, _, i, hi, _⟩ | ⟨_, _, _, e⟩
  · rw [e]
    refine ⟨rfl, rfl, h.1, ?_⟩
    split
    · exact freeIdle_reserve s _ h.2
    · exact h.2
  · exact absurd hroom h.1
  · rw [h.2] at hi; cases hi
  · rw [e]; exact ⟨rfl, rfl, h⟩

theorem assignOne_unassigned (cfg : Cfg) (s : State) (r : Req)
    (h : (assignOne cfg s r).2.conn = none) :
    assignOne cfg s r = (s, r) ∧ Stuck cfg s ∧ availFor s r.origin = [] := by
  rcases assignOne_cases cfg s r with ⟨_, _, e⟩ | ⟨_, _, e⟩ | ⟨_, _, _, _, e⟩ | ⟨hav, hfull, hi, e⟩ <;> rw [e] at h
  · cases h
  · cases h
  · cases h
  · exact ⟨e, ⟨hfull, hi⟩, hav⟩

/-- the invariant: every request already passed over and left queued is blocked in the current pool state, and that state can no
longer change (`assignOne_stuck`) -/
theorem assignAll_complete (cfg : Cfg) (s : State) (rs done : List Req)
    (h : ∀ q ∈ done, q.conn = none → Stuck cfg s ∧ availFor s q.origin = []) :
    ∀ q ∈ (assignAll cfg s rs done).reqs, q.conn = none →
      Stuck cfg (assignAll cfg s rs done) ∧ availFor (assignAll cfg s rs done) q.origin = [] := by
  refine assignAll_induct cfg (I := fun s done _ => ∀ q ∈ done, q.conn = none → Stuck cfg s ∧ availFor s q.origin = [])
    (fun s r _ done hc hJ => List.forall_mem_append.mpr ⟨hJ, List.forall_mem_singleton.mpr fun hn => absurd hn hc⟩)
    (fun s r _ done _ hJ => List.forall_mem_append.mpr ⟨fun q hq hn => ?_, List.forall_mem_singleton.mpr fun hn => ?_⟩)
    (fun _ _ h => h) s rs done h
  · obtain ⟨hs, ha⟩ := hJ q hq hn
    obtain ⟨e1, _, e2⟩ := assignOne_stuck cfg s r hs
    exact ⟨e2, by unfold availFor at ha ⊢; rw [e1]; exact ha⟩
  · obtain ⟨e, h2, h3⟩ := assignOne_unassigned cfg s r hn
    rw [e]
    exact ⟨h2, h3⟩

/-- **C07.pass_complete** — after an assignment pass a request is still waiting only if no pooled
connection can take it (none available for its origin), the pool is at its connection limit, and no
idle connection is free to be evicted (every idle one has been handed to a request that is about to
use it). For every configuration, queue and mix of connections. -/
theorem pass_complete (cfg : Cfg) (s : State) :
    ∀ q ∈ (pass cfg s).reqs, q.conn = none →
      ¬ (pass cfg s).conns.length < cfg.maxConn ∧
      freeIdle (pass cfg s) = [] ∧
      (pass cfg s).conns.filter (fun c => c.origin == q.origin && c.available) = [] := by
  intro q hq hn
  obtain ⟨⟨h1, h2⟩, h3⟩ := assignAll_complete cfg _ s.reqs [] (fun _ h => nomatch h) q hq hn
  exact ⟨h1, h2, h3⟩

theorem assignAll_stuck (cfg : Cfg) (s : State) (rs done : List Req) (h : Stuck cfg s) :
    (assignAll cfg s rs done).conns = s.conns :=
  (assignAll_induct cfg (I := fun s' _ _ => Stuck cfg s' ∧ s'.conns = s.conns) (fun _ _ _ _ _ h => h)
    (fun s' r _ _ _ ⟨hs, h1⟩ => have ⟨e1, _, e2⟩ := assignOne_stuck cfg s' r hs; ⟨e2, e1.trans h1⟩)
    (fun _ _ h => h) s rs done ⟨h, rfl⟩).2

/-- **C07.no_overtaking** — requests are examined in arrival order, and once one of them has to be
left waiting no later request of the same pass gets a connection created or an idle one evicted
for it: the pool's connection list no longer changes in that pass. -/
theorem no_overtaking (cfg : Cfg) (s : State) (r : Req) (rest done : List Req)
    (hq : r.conn = none) (hstay : (assignOne cfg s r).2.conn = none) :
    (assignAll cfg s (r :: rest) done).conns = s.conns := by
  obtain ⟨h1, h2, _⟩ := assignOne_unassigned cfg s r hstay
  simp only [assignAll, hq, h1]
  exact assignAll_stuck cfg s rest _ h2

/-- **C07.served_when_possible** — conversely a queued request *is* given a connection by the pass
whenever an available connection for its origin exists, or there is room, or an idle connection that is
not spoken for can be evicted, at its turn. -/
theorem served_when_possible (cfg : Cfg) (s : State) (r : Req)
    (h : availFor s r.origin ≠ [] ∨ s.conns.length < cfg.maxConn ∨ freeIdle s ≠ []) :
    (assignOne cfg s r).2.conn ≠ none := by
  intro hn
  obtain ⟨_, ⟨h2, h3⟩, h4⟩ := assignOne_unassigned cfg s r hn
  rcases h with h | h | h
  · exact h h4
  · exact h2 h
  · exact h h3

/-- **C07.every_queue_change_triggers_pass** - Tie A (regenerated): after every statement of `connection_pool.py` that changes the
request queue - a request added, a request removed because it failed / was cancelled / its response was closed, a request given its
connection back after `ConnectionNotAvailable` - the next thing the pool does, before any suspension point, is an unconditional
assignment pass.  Together with `pass_complete` (a pass leaves a request waiting only if nothing can serve it): no change of the
queue leaves a serviceable request waiting. -/
theorem every_queue_change_triggers_pass : ∀ r ∈ Gen.poolPassFollows, r.2.2 = true := by decide

/-- non-vacuity: the four sites of the request protocol are in the table -/
theorem queue_change_sites_found : 4 ≤ Gen.poolPassFollows.length := by decide

end Httpcore.C07
