import HttpcoreModel.Props.Life  -- not used below: the check of C12 (harness/props/c12.py) audits `LifeProps.h2_in_use_*` through this module
import HttpcoreModel.H2
/-!
# C12 — HTTP/2 streams are isolated, bounded and cannot wedge each other
-/
namespace Httpcore.C12
open Httpcore Httpcore.H2

/-- the accounting invariant of `_max_streams_semaphore` / `_max_streams` / `_max_streams_debt` -/
structure SlotInv (s : Slots) : Prop where
  account : s.sem + s.held = s.maxS + s.debt
  pos : 1 ≤ s.maxS
  cap : s.maxS ≤ localCap

theorem init_inv : SlotInv Slots.init := by
  constructor <;> simp [Slots.init, localCap, Gen.h2InitialMaxStreams, Gen.h2LocalMaxStreams]

theorem step_inv (s : Slots) (op : SlotOp) (h : SlotInv s) : SlotInv (s.step op) := by
  obtain ⟨h1, h2, h3⟩ := h
  cases op with
  | settings n =>
    have hcap : min n localCap ≤ localCap := Nat.min_le_right _ _
    simp only [Slots.step, Slots.settings]
    split
    · exact ⟨h1, h2, h3⟩
    · split <;> constructor <;> simp only [] <;> omega
  | open_ =>
    simp only [Slots.step, Slots.openStream]
    split <;> constructor <;> simp only [] <;> omega
  | close =>
    simp only [Slots.step, Slots.closeStream]
    split
    · exact ⟨h1, h2, h3⟩
    · split <;> constructor <;> simp only [] <;> omega

/-- **C12.slot_accounting** — for every sequence of SETTINGS changes (up and down, also below the number of streams in
flight), stream openings and stream ends: free permits + open streams = the limit in force + the permits still to be
withheld, and the limit in force is between 1 and the local cap (100). -/
theorem slot_accounting (ops : List SlotOp) : SlotInv (ops.foldl Slots.step Slots.init) :=
  List.foldlRecOn ops Slots.step init_inv fun s h op _ => step_inv s op h

theorem open_success (s : Slots) (h : SlotInv s) (ho : s.openStream.2 = true) :
    s.openStream.1.held ≤ s.maxS ∧ s.openStream.1.debt = 0 := by
  have := h.account
  by_cases hc : s.sem - min s.sem s.debt > 0
  · simp only [Slots.openStream, hc, if_true]
    omega
  · simp [Slots.openStream, hc] at ho

/-- **C12.open_within_limit** — a stream is opened only while, counting it, no more streams are open than the limit the
server advertised last (capped at 100; 1 until the first SETTINGS): after a lowered limit no new stream opens until enough
of the old ones have ended. -/
theorem open_within_limit (ops : List SlotOp) (ho : (ops.foldl Slots.step Slots.init).openStream.2 = true) :
    (ops.foldl Slots.step Slots.init).openStream.1.held ≤ (ops.foldl Slots.step Slots.init).maxS ∧
    (ops.foldl Slots.step Slots.init).openStream.1.held ≤ localCap := by
  have h := slot_accounting ops
  have := open_success _ h ho
  have := h.cap
  omega

/-- the limit in force after a SETTINGS frame is `min(server value, 100)`, at once - also when it is lowered; 0 is ignored -/
theorem settings_limit (s : Slots) (n : Nat) (hn : min n localCap ≠ 0) : (s.settings n).maxS = min n localCap := by
  simp only [Slots.settings]
  split
  · rename_i hc
    exact (hc.resolve_left hn).symm
  · split <;> rfl

/-- "one until its SETTINGS arrive": the first request takes the only permit, every further one finds none -/
theorem one_before_settings (k : Nat) :
    ((List.replicate k SlotOp.open_).foldl Slots.step Slots.init).held ≤ 1 := by
  have full : ∀ k, (List.replicate k SlotOp.open_).foldl Slots.step ⟨0, 1, 1, 0⟩ = ⟨0, 1, 1, 0⟩ := by
    intro k
    induction k with
    | zero => rfl
    | succ k ih => exact ih
  cases k with
  | zero => exact Nat.zero_le 1
  | succ k => exact Nat.le_of_eq (congrArg Slots.held (full k))

/-- the debt never grows except by a lowered limit -/
theorem debt_only_from_lowering (s : Slots) (op : SlotOp) (h : (s.step op).debt > s.debt) :
    ∃ n, op = .settings n ∧ min n localCap < s.maxS := by
  cases op with
  | settings n =>
    refine ⟨n, rfl, ?_⟩
    simp only [Slots.step, Slots.settings] at h
    split at h
    · omega
    · split at h
      · simp only [] at h; omega
      · omega
  | open_ => simp only [Slots.step, Slots.openStream] at h; split at h <;> dsimp only at h <;> omega
  | close => simp only [Slots.step, Slots.closeStream] at h; split at h <;> (try split at h) <;> (try dsimp only at h) <;> omega

/-- open streams are split into those that still need the shared reader (`waiting`) and those whose remaining
events are already queued (`ready`) -/
structure PState where
  slots : Slots
  waiting : Nat
  ready : Nat
  deriving DecidableEq, Repr

inductive PAct
  | settings (n : Nat)     -- the reader processes a SETTINGS frame (it never waits for the semaphore)
  | open_                  -- a request runs its acquire loop
  | deliver                -- the reader queues the rest of one stream's events
  | finish                 -- a stream with queued events ends and releases / withholds its slot
  deriving Repr

def pstep (p : PState) : PAct → Option PState
  | .settings n => some { p with slots := p.slots.settings n }
  | .open_ => let r := p.slots.openStream
              some { p with slots := r.1, waiting := if r.2 then p.waiting + 1 else p.waiting }
  | .deliver => if p.waiting = 0 then none else some { p with waiting := p.waiting - 1, ready := p.ready + 1 }
  | .finish => if p.ready = 0 then none else some { p with ready := p.ready - 1, slots := p.slots.closeStream }

def PState.init : PState := { slots := Slots.init, waiting := 0, ready := 0 }

/-- **C12.no_wedge** — whatever SETTINGS the server has sent, as long as some stream is open one of them can make progress:
the reader is never parked inside the semaphore, so it can always deliver to a waiting stream, and a stream whose events
are queued can always finish. -/
theorem no_wedge (p : PState) (hopen : 0 < p.waiting + p.ready) :
    (pstep p .deliver).isSome ∨ (pstep p .finish).isSome := by
  by_cases hr : p.ready = 0
  · left
    have : p.waiting ≠ 0 := by omega
    simp [pstep, this]
  · right; simp [pstep, hr]

/-- a SETTINGS frame is always processed: nothing about the slots can hold the reader up -/
theorem settings_never_blocks (p : PState) (n : Nat) : (pstep p (.settings n)).isSome := by simp [pstep]

/-- once the open streams have ended, a waiting request gets its slot: no permit is lost to the debt -/
theorem slot_available_when_idle (s : Slots) (h : SlotInv s) (hidle : s.held = 0) : s.openStream.2 = true := by
  obtain ⟨h1, h2, h3⟩ := h
  unfold Slots.openStream
  simp only []
  split
  · rfl
  · rename_i hc; omega

/-! #### the 1.0.7 behaviour -/

structure PState107 where
  slots : Slots107
  waiting : Nat
  ready : Nat
  deriving DecidableEq, Repr

def pstep107 (p : PState107) : PAct → Option PState107
  | .settings n => if p.slots.readerBlocked then none else some { p with slots := p.slots.settings n }
  | .open_ => (p.slots.openStream).map fun s => { p with slots := s, waiting := p.waiting + 1 }
  | .deliver => if p.slots.readerBlocked ∨ p.waiting = 0 then none
                else some { p with waiting := p.waiting - 1, ready := p.ready + 1 }
  | .finish => if p.ready = 0 then none else some { p with ready := p.ready - 1, slots := p.slots.closeStream }

def prun107 (p : PState107) : List PAct → Option PState107
  | [] => some p
  | a :: rest => (pstep107 p a).bind fun p' => prun107 p' rest

/-- **finding F-C12-a (1.0.7; repaired)** — the server raises the limit to 3, three requests are in flight waiting for their
responses, the server lowers the limit to 1: the reader blocks in the semaphore holding the read lock, and no action is
possible any more. -/
theorem wedge_reachable_107 :
    ∃ p, prun107 { slots := { sem := 1, held := 0, maxS := 1, want := 1 }, waiting := 0, ready := 0 }
        [.settings 3, .open_, .open_, .open_, .settings 1] = some p ∧
      p.waiting = 3 ∧ ∀ a, pstep107 p a = none := by
  refine ⟨{ slots := { sem := 0, held := 3, maxS := 3, want := 1 }, waiting := 3, ready := 0 }, by decide, rfl, ?_⟩
  intro a
  cases a <;> simp [pstep107, Slots107.readerBlocked, Slots107.openStream]

/-- the same history with the repaired bookkeeping: the limit drops at once, two permits are owed, and the streams go on -/
example : ([SlotOp.settings 3, .open_, .open_, .open_, .settings 1].foldl Slots.step Slots.init) =
    { sem := 0, held := 3, maxS := 1, debt := 2 } := by decide

/-- **C12.own_stream_only** — whatever the interleaving of the server's frames, the queue of stream `s` receives
exactly the events carrying stream id `s`, in their order of arrival, and only if `s` is registered; the events of
other streams have no influence on it. -/
theorem own_stream_only {α} (reg : List Nat) (evs : List (Nat × α)) (s : Nat) :
    routeAll reg (fun _ => []) evs s =
      if s ∈ reg then (evs.filter (fun e => e.1 = s)).map (·.2) else [] := by
  rw [routeAll_eq, List.nil_append]

/-- two interleavings with the same per-stream sub-sequence deliver the same to that stream -/
theorem interleaving_independent {α} (reg : List Nat) (e1 e2 : List (Nat × α)) (s : Nat)
    (h : e1.filter (fun e => e.1 = s) = e2.filter (fun e => e.1 = s)) :
    routeAll reg (fun _ => []) e1 s = routeAll reg (fun _ => []) e2 s := by
  simp only [own_stream_only, h]

/-- the request takes its slot before a stream id is reserved (regenerated from the source): a request waiting
for a slot holds no stream id, so ids reach the server in increasing order -/
theorem slot_before_stream_id : Gen.slotBeforeStreamId = true := by decide

theorem settings_change_modelled : Gen.settingsChangeShapeKnown = true := by decide

/-! non-vacuity -/
example : ([SlotOp.settings 3, .open_, .open_, .close, .settings 200, .open_].foldl Slots.step Slots.init) =
    { sem := 98, held := 2, maxS := 100, debt := 0 } := by decide
example : routeAll [1, 3] (fun _ => []) [(1, 10), (3, 30), (5, 50), (1, 11)] 1 = [10, 11] := by decide

/-- what one call of `_receive_events` does to h2's outbound buffer: the read may make h2 queue `q` bytes (the acknowledgement of a PING
or of SETTINGS, a window update); then the flush the source has - or has not - at the end of the function -/
def afterReceiveEvents (buffered q : Nat) : Nat :=
  if Gen.receiveEventsAlwaysFlushes then 0 else buffered + q

/-- **acks_leave_with_the_reader** - Tie A (regenerated): `_receive_events` ends with an unconditional `_write_outgoing_data`, so after
every call, whichever stream's caller made it and whatever the read delivered, nothing h2 queued in answer to the peer is left in its
buffer: a server that waits for an acknowledgement before it sends more cannot be starved by a reader whose own stream needs no write. -/
theorem acks_leave_with_the_reader (b : Nat) (qs : List Nat) (h : qs ≠ []) :
    qs.foldl afterReceiveEvents b = 0 := by
  -- whatever came before, the last call ends with the flush
  rw [← List.dropLast_concat_getLast h, List.foldl_append]
  rfl

example : [8, 0, 17].foldl afterReceiveEvents 5 = 0 := by decide

end Httpcore.C12
