import HttpcoreModel.Props.C08
/-!
# C04 under threads

`pass_bound_adversarial` (Props/C04.lean) bounds the pool's connection list after a pass whatever other threads do to the
*status* of connections meanwhile.  What other threads must not be able to do is to run a second pass, or to mutate the pool's
lists, in the middle of one: that is what the thread lock is for, and whether every such statement is inside it is regenerated
from the source (Tie A, `Gen.poolMutations`).
-/
namespace Httpcore.C04
open Httpcore Httpcore.Pool

/-- **C04.passes_are_serialised** — every statement of `connection_pool.py` that runs the assignment pass or mutates
`_connections` / `_requests` is inside `with self._optional_thread_lock:` (decided over the regenerated table): passes of
different threads never interleave, so `pass_bound_adversarial` applies to each of them. -/
theorem passes_are_serialised : ∀ m ∈ Gen.poolMutations, m.2.2 = true := C08.pool_mutations_locked

/-- the table is not empty and contains the pass's call sites (non-vacuity) -/
example : (Gen.poolMutations.filter (fun m => m.2.1 = "closing = self._assign_requests_to_connections()" ||
    m.2.1 = "closing = self._pool._assign_requests_to_connections()")).length ≥ 3 := by decide +kernel

end Httpcore.C04
