import HttpcoreModel.Generated
import HttpcoreModel.Establish
/-!
# C11 — Proxy hops see exactly what is meant for them
-/
namespace Httpcore.C11
open Httpcore Httpcore.Est
open Httpcore.H1W (Req writeRequest)
abbrev Header := Est.Header

def overridden (over : List Header) (h : Header) : Bool := over.any fun o => lower o.1 = lower h.1

/-- **C11.merge** — `merge_headers(default, override)`: every override header survives, in order,
at the end; a default header survives iff no override header has the same name case-insensitively;
surviving defaults keep their order and come first. -/
theorem merge (dflt over : List Header) :
    mergeHeaders dflt over = dflt.filter (fun h => !overridden over h) ++ over := rfl

theorem merge_override_survives (dflt over : List Header) :
    ∃ pre, mergeHeaders dflt over = pre ++ over ∧ pre.Sublist dflt := ⟨_, rfl, List.filter_sublist⟩

theorem merge_default_survives_iff (dflt over : List Header) (h : Header) (hd : h ∈ dflt) :
    h ∈ dflt.filter (fun h => !overridden over h) ↔ (∀ o ∈ over, lower o.1 ≠ lower h.1) := by
  simp [List.mem_filter, hd, overridden]

/-- no header of the merged list is invented -/
theorem merge_members (dflt over : List Header) (h : Header) :
    h ∈ mergeHeaders dflt over → h ∈ dflt ∨ h ∈ over := by
  simp only [mergeHeaders, List.mem_append, List.mem_filter]
  exact Or.imp_left And.left

/-- **C11.tunnel (request)** — the CONNECT request names exactly `host:port` as target and as Host,
carries only Host, Accept and the proxy's headers (nothing of the caller's request), and has no body. -/
theorem connect_request (px : Proxy) (host : Bytes) (port : Nat) :
    (connectRequest px host port).method = ascii "CONNECT" ∧
    (connectRequest px host port).target = host ++ 58 :: decimal port ∧
    (∀ h ∈ (connectRequest px host port).headers,
      h = (ascii "Host", host ++ 58 :: decimal port) ∨ h = (ascii "Accept", ascii "*/*") ∨ h ∈ px.headers) :=
  ⟨rfl, rfl, fun h hm => by simpa [or_assoc, hostPort] using merge_members _ _ h hm⟩

/-- **C11.tunnel (reply)** — the origin request flows only after a 2xx reply; any other status is
refused (`ProxyError`). -/
theorem connect_accepted_iff (status : Nat) : connectAccepted status = true ↔ (200 ≤ status ∧ status ≤ 299) := by
  simp [connectAccepted]

/-- **C11.forward** — through a forwarding proxy the request line carries the absolute URL and
the proxy's headers are merged *beneath* the caller's (a caller header of the same name wins). -/
theorem forward_request (px : Proxy) (method : Bytes) (url : Url.URL) (headers : List Header) :
    (forwardRequest px method url headers).target = Url.toBytes url ∧
    (forwardRequest px method url headers).method = method ∧
    (forwardRequest px method url headers).headers =
      px.headers.filter (fun h => !overridden headers h) ++ headers := ⟨rfl, rfl, rfl⟩

/-- **C11.secrets_stay_outside (header level)** — inside the tunnel the origin sees exactly the
caller's header list: the tunnel connection hands the request on unchanged, so no proxy header
(in particular Proxy-Authorization) can occur there; and the CONNECT request contains no caller
header (see `connect_request`). Stated on the two header lists the model writes. -/
theorem secrets_stay_outside (px : Proxy) (host : Bytes) (port : Nat) (callerHeaders : List Header)
    (secret : Header) (hs : secret ∈ px.headers) (hn : secret ∉ callerHeaders) :
    secret ∉ callerHeaders ∧
    (∀ h ∈ (connectRequest px host port).headers, h ∈ callerHeaders →
      h = (ascii "Host", host ++ 58 :: decimal port) ∨ h = (ascii "Accept", ascii "*/*") ∨ h ∈ px.headers) :=
  ⟨hn, fun h hm _ => (connect_request px host port).2.2 h hm⟩

/-- **C11.socks** — the negotiation offers exactly one method, the configured one; sends the
user/password message iff credentials are configured; and the CONNECT command names exactly the
origin host (as a domain name or IPv4 address) and port. -/
theorem socks_messages (px : Proxy) (host : Bytes) (port : Nat) (c : Bytes) (hc : socksConnect host port = some c) :
    socksNegotiation px host port =
      some ([[5, 1, if px.auth.isSome then 2 else 0]] ++
        (match px.auth with | some (u, p) => [[1, u.length] ++ u ++ [p.length] ++ p] | none => []) ++ [c]) := by
  simp [socksNegotiation, hc, socksMethodOffer, socksUserPass]
  cases px.auth <;> rfl

theorem socks_connect_domain (host : Bytes) (port : Nat) (h4 : parseIPv4 host = none) (h6 : host.contains 58 = false) :
    socksConnect host port = some ([5, 1, 0, 3, host.length] ++ host ++ [port / 256 % 256, port % 256]) := by
  have h6' : 58 ∉ host := by simpa [List.contains_iff_mem] using h6
  simp [socksConnect, h4, h6']

/-! non-vacuity -/
example : mergeHeaders [(ascii "Proxy-Authorization", ascii "Basic x"), (ascii "X-P", ascii "1")]
    [(ascii "proxy-authorization", ascii "mine")] = [(ascii "X-P", ascii "1"), (ascii "proxy-authorization", ascii "mine")] := by
  decide +kernel
example : socksConnect (ascii "10.0.0.1") 443 = some [5, 1, 0, 1, 10, 0, 0, 1, 1, 187] := by decide +kernel

/-- **C11.merge_is_the_modelled_function** - Tie A (regenerated): `merge_headers` in the source is statement for statement the function
`Establish.mergeHeaders` models - in particular it works on copies, so merging a request's headers never changes the proxy
configuration that later requests are merged with - and its two call sites merge what the model says they merge. -/
theorem merge_is_the_modelled_function : Gen.mergeHeadersAsModelled = true := by decide

/-- **C11.proxy_requests_are_their_own** - Tie A (regenerated): the two requests httpcore itself builds for a proxy - CONNECT and the
forwarded request - take over the caller's extensions without `target`; their request line is `connectRequest` / `forwardRequest` of
the model whatever the caller put into that extension (findings F-C10-c, F-C11-c). -/
theorem proxy_requests_are_their_own : Gen.proxyRequestsDropTargetExtension = true := by decide

end Httpcore.C11
