import HttpcoreModel.Props.C02HeadSpelled
import HttpcoreModel.Props.C02Head
import HttpcoreModel.Props.C02H2
import HttpcoreModel.Lemmas.H1Drain
/-!
# C02 — Responses are delivered byte-exact, independent of network segmentation

Property theorems about the reader model (`H1Read`, `H1Obs`).  `segmentation` holds for *every*
byte stream (well-formed or not) and every way of cutting it.
-/
namespace Httpcore.C02
open Httpcore Httpcore.H1

/-- **C02.h1_segmentation** — however the transport splits the server's byte stream into reads
(one byte at a time, inside CRLF, inside chunk-size lines, …) the caller observes the same status,
reason, version, headers, body bytes and outcome as if the stream had arrived in one read; and the
reader ends in the same state with the same unconsumed bytes. For every request kind, every byte
stream and every segmentation. -/
theorem h1_segmentation (ri : ReqInfo) (segs : List Bytes) :
    readAll ri segs = readAll ri [segs.flatten] := by
  simp only [readAll, feedAll_head, List.flatten_cons, List.flatten_nil, List.append_nil]

/-- the same while the connection stays open (no end of file yet) -/
theorem h1_segmentation_open (ri : ReqInfo) (segs : List Bytes) :
    readOpen ri segs = readOpen ri [segs.flatten] := by
  simp only [readOpen, feedAll_head, List.flatten_cons, List.flatten_nil, List.append_nil]

/-! ### interim responses -/

theorem parseHead_ok {raw : Bytes} {isInfo : Bool} {h : Head} (hp : parseHead raw = .ok isInfo h) :
    100 ≤ h.status ∧ (isInfo = true ↔ h.status < 200) := by
  revert hp
  fun_cases parseHead raw <;> intro hp <;> cases hp
  exact ⟨Nat.le_of_not_lt ‹_›, decide_eq_true_iff⟩

def EvOk (e : Ev) : Prop :=
  (∀ h, e = .response h → 200 ≤ h.status) ∧ (∀ h, e = .info h → h.status < 200)

theorem judge_status {ri : ReqInfo} {judge : Bytes → Except Err (Ev × St)} {p : Bytes} {e : Ev} {s : St}
    (hm : judge ∈ [judgeHead ri, judgeChunkSize, judgeTrailers]) (hj : judge p = .ok (e, s)) : EvOk e := by
  simp only [List.mem_cons, List.not_mem_nil, or_false] at hm
  rcases hm with rfl | rfl | rfl <;> revert hj
  · have info {h : Head} (hp : parseHead p = .ok true h) : EvOk (.info h) :=
      ⟨nofun, fun _ e => by cases e; exact (parseHead_ok hp).2.mp rfl⟩
    fun_cases judgeHead ri p <;> intro hj <;> cases hj
    · exact info ‹_›
    · exact info ‹_›
    · next h hp => exact ⟨fun _ e => by cases e; exact Nat.le_of_not_lt (Bool.false_ne_true ∘ (parseHead_ok hp).2.mpr), nofun⟩
  · fun_cases judgeChunkSize p <;> intro hj <;> cases hj <;> exact ⟨nofun, nofun⟩
  · fun_cases judgeTrailers p <;> intro hj <;> cases hj; exact ⟨nofun, nofun⟩

/-- every head the reader hands out as a *response* event is final (status ≥ 200), and every
`info` event is a 1xx -/
theorem extract_head_status (ri : ReqInfo) (s : St) (b : Bytes) (e : Ev) (s' : St) (r : Bytes)
    (hx : extract ri s b = some (e, s', r)) : EvOk e := by
  obtain ⟨-, -, (⟨j, hm, p, hj⟩ | ⟨err, rfl⟩) | rfl | rfl | ⟨c, rfl⟩⟩ := extract_spec ri s b e s' r hx
  · exact judge_status hm hj
  all_goals exact ⟨nofun, nofun⟩

def HeadOk (o : Obs) : Prop := ∀ h, o.head = some h → 200 ≤ h.status ∨ h.status = 101

theorem absorb_head_ok (o : Obs) (e : Ev) (ho : HeadOk o) (he : EvOk e) : HeadOk (absorb o e) := by
  intro h hh
  cases e with
  | info h' =>
    simp only [absorb] at hh
    split at hh
    · cases hh; right; assumption
    · exact ho h hh
  | response h' => cases hh; left; exact he.1 h rfl
  | fail e => simp only [absorb] at hh; split at hh <;> exact ho h hh
  | _ => exact ho h hh

/-- **C02.h1_interim_skipped** — whatever the server sends and however it is cut, the response
handed to the caller is never an interim 1xx response (other than 101 Switching Protocols, which
is the answer to an upgrade request). -/
theorem h1_interim_skipped (ri : ReqInfo) (segs : List Bytes) (h : Head)
    (hh : (readAll ri segs).1.head = some h) : 200 ≤ h.status ∨ h.status = 101 := by
  rw [readAll, feedAll_head, atEof_head] at hh
  exact List.foldlRecOn (motive := HeadOk) _ absorb (show HeadOk {} from nofun)
    (fun o ho e he => absorb_head_ok o e ho ((reader ri).drain_all EvOk (extract_head_status ri) _ _ e he)) h hh

/-! ### body framing: Content-Length, until-close, truncation -/

/-- `raw` is a complete final response head: whatever follows it, the head step reports `h`, moves to the body framing `s`
that `h` announces for this request, and leaves exactly what follows -/
def HeadGives (ri : ReqInfo) (raw : Bytes) (h : Head) (s : St) : Prop :=
  ∀ tail, (reader ri).extract .head (raw ++ tail) = some (.response h, s, tail)

theorem drain_headGives {ri : ReqInfo} {raw : Bytes} {h : Head} {s : St} (hg : HeadGives ri raw h s) (tail : Bytes) :
    (reader ri).drain .head (raw ++ tail) = Extractor.pre [.response h] ((reader ri).drain s tail) :=
  (reader ri).drain_some (hg tail)

/-- a head followed by a body in the framing it announces, then by anything: both receive loops hand out exactly that head and
body, complete, and leave what follows in the buffer -/
theorem reads_of_frames {ri : ReqInfo} {raw w body : Bytes} {h : Head} {s : St} (hg : HeadGives ri raw h s)
    (hf : Frames ri s w body) (rest : Bytes) (segs : List Bytes) (hs : segs.flatten = raw ++ (w ++ rest)) :
    readOpen ri segs = ({ head := some h, bodyRev := body.reverse, outcome := .complete }, .done, rest) ∧
    readAll ri segs = ({ head := some h, bodyRev := body.reverse, outcome := .complete }, .done, rest) := by
  obtain ⟨h1, h2⟩ := hf rest
  simp only [readOpen, readAll, feedAll_head, hs, drain_headGives hg, Extractor.pre, List.singleton_append,
    observe_response, h1, h2]
  simp [settle, atEof]

/-- **C02.h1_body_content_length** — for every response head that selects Content-Length
framing with length `body.length`, every body and every way of cutting head ++ body into reads:
the caller gets that head and exactly `body`, complete; bytes after the body are left unread. -/
theorem h1_body_content_length (ri : ReqInfo) (raw body rest : Bytes) (h : Head)
    (hg : HeadGives ri raw h (.cl body.length)) (segs : List Bytes)
    (hs : segs.flatten = raw ++ (body ++ rest)) :
    (readAll ri segs).1 = { head := some h, bodyRev := body.reverse, outcome := .complete } ∧
    (readAll ri segs).2.2 = rest := by
  rw [(reads_of_frames hg (frames_cl ri body) rest segs hs).2]
  exact ⟨rfl, rfl⟩

/-- **C02.h1_truncation (Content-Length)** — if the stream ends before the announced number of
body bytes has arrived, the caller gets a protocol error — never a silently shorter body — for
every cut position and every segmentation. -/
theorem h1_truncation_cl (ri : ReqInfo) (raw got : Bytes) (missing : Nat) (h : Head)
    (hg : HeadGives ri raw h (.cl (got.length + (missing + 1)))) (segs : List Bytes)
    (hs : segs.flatten = raw ++ got) :
    (readAll ri segs).1.outcome = .error .protocol := by
  have hd := drain_cl_run ri got [] (missing + 1)
  rw [List.append_nil, drain_stop ri (show extract ri (.cl (missing + 1)) [] = none from rfl)] at hd
  simp [readAll, feedAll_head, hs, drain_headGives hg, hd, observe_response, foldl_absorb_data, atEof]

/-- **C02.h1_truncation (head)** — a stream that ends inside the response head (no blank line
yet) gives a protocol error. -/
theorem h1_truncation_head (ri : ReqInfo) (pre : Bytes) (segs : List Bytes)
    (hs : segs.flatten = pre) (hn : (reader ri).extract .head pre = none) :
    (readAll ri segs).1.outcome = .error .protocol := by
  simp [readAll, feedAll_head, hs, (reader ri).drain_none hn, observe, atEof]

/-- **C02.h1_body_until_close** — close-delimited framing: every byte up to end of file is
delivered, in order, and end of file completes the response. -/
theorem h1_body_until_close (ri : ReqInfo) (raw body : Bytes) (h : Head)
    (hg : HeadGives ri raw h .untilClose) (segs : List Bytes) (hs : segs.flatten = raw ++ body) :
    (readAll ri segs).1 = { head := some h, bodyRev := body.reverse, outcome := .complete } := by
  simp [readAll, feedAll_head, hs, drain_headGives hg, drain_untilClose, observe_response, foldl_absorb_data, atEof]

/-- to establish `HeadGives` it is enough to evaluate the reader on the head alone -/
theorem headGives_of_extract (ri : ReqInfo) (raw : Bytes) (h : Head) (s : St)
    (hx : (reader ri).extract .head raw = some (.response h, s, [])) : HeadGives ri raw h s :=
  fun tail => (reader ri).stable .head raw (.response h) s [] tail hx

/-! ### non-vacuity: concrete heads satisfy `HeadGives` -/

example : HeadGives ⟨false, false, false⟩ (ascii "HTTP/1.1 200 OK\r\nContent-Length: 5\r\nX-A:  b c \r\n\r\n")
    ⟨ascii "1.1", 200, ascii "OK", [(ascii "Content-Length", ascii "5"), (ascii "X-A", ascii "b c")]⟩
    (.cl (ascii "hello").length) :=
  headGives_of_extract _ _ _ _ (by decide +kernel)

example : HeadGives ⟨false, false, false⟩ (ascii "HTTP/1.0 404 Not Found\r\n\r\n")
    ⟨ascii "1.0", 404, ascii "Not Found", []⟩ .untilClose :=
  headGives_of_extract _ _ _ _ (by decide +kernel)

end Httpcore.C02
