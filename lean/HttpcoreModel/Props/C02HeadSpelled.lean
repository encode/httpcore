import HttpcoreModel.Props.C02Head
/-!
# C02 - the head round trip for every legal *spelling* of the header lines

`name ":" OWS value OWS`: any run of spaces / tabs (also none) after the colon and after the value.  The canonical spelling of
`Props/C02Head.lean` is the special case `pre = " "`, `post = ""`.
-/
namespace Httpcore.C02H
open Httpcore Httpcore.H1

structure WireHeader where
  name : Bytes
  value : Bytes
  pre : Bytes      -- white space between the colon and the value
  post : Bytes     -- white space after the value
  deriving DecidableEq, Repr

def WireHeader.line (w : WireHeader) : Bytes := w.name ++ 58 :: (w.pre ++ w.value ++ w.post)
def WireHeader.header (w : WireHeader) : Header := (w.name, w.value)

def renderHeadSpelled (a b d1 d2 d3 : Nat) (reason : Bytes) (ws : List WireHeader) : Bytes :=
  (((statusLine a b d1 d2 d3 reason) :: ws.map (·.line)).map (· ++ [13, 10])).flatten ++ [13, 10]

theorem parseHeaderLine_spelled (w : WireHeader) (hn : w.name ≠ []) (hnt : w.name.all isTokenChar = true)
    (hv : H1W.validFieldValue w.value = true) (hpre : ∀ x ∈ w.pre, isOWS x = true) (hpost : ∀ x ∈ w.post, isOWS x = true) :
    parseHeaderLine w.line = some (w.name, w.value) :=
  parseHeaderLine_pad w.name w.pre w.value w.post hn hnt hv hpre hpost

/-- well-formed head with spelled header lines -/
structure WellFormedSpelled (a b d1 d2 d3 : Nat) (reason : Bytes) (ws : List WireHeader) : Prop where
  base : WellFormed a b d1 d2 d3 reason (ws.map (·.header))
  pads : ∀ w ∈ ws, (∀ x ∈ w.pre, isOWS x = true) ∧ (∀ x ∈ w.post, isOWS x = true)

/-- **C02.parse_head_roundtrip_spelled** - the head round trip for every legal spelling of the header lines: whatever runs of spaces and
tabs the server puts after the colon and after the value of each header, the reader reports the header list with names and values
byte for byte and no white space added or lost; and it finds the end of the head exactly. -/
theorem parse_head_roundtrip_spelled (a b d1 d2 d3 : Nat) (reason : Bytes) (ws : List WireHeader) (body : Bytes)
    (hw : WellFormedSpelled a b d1 d2 d3 reason ws) :
    parseHead (renderHeadSpelled a b d1 d2 d3 reason ws) =
      .ok (decide (digitsVal [d1, d2, d3] < 200))
        { version := [a, 46, b], status := digitsVal [d1, d2, d3], reason := reason, headers := ws.map (·.header) } ∧
    findBlank (renderHeadSpelled a b d1 d2 d3 reason ws ++ body) = some (renderHeadSpelled a b d1 d2 d3 reason ws, body) :=
  head_of_lines _ (ws.map (·.line)) _ _ _ body _ _ _ (by rw [renderHeadSpelled]) (statusLine_ok hw.base).1 (statusLine_ok hw.base).2 hw.base.code.2.2.2
    (optAllM_map parseHeaderLine (·.line) (·.header) ws fun w hm =>
      have ⟨x1, x2, x3⟩ := hw.base.headers_ok w.header (List.mem_map_of_mem hm)
      parseHeaderLine_spelled w x1 x2 x3 (hw.pads w hm).1 (hw.pads w hm).2)
    hw.base.normal  -- (`rw`, not `rfl`: with the wire image already known from the goal, `rfl` evaluates both sides)

/-- non-vacuity: no space after the colon, tabs and spaces around the value -/
example : (WireHeader.mk (ascii "X-A") (ascii "b c") [] [9, 32]).line = ascii "X-A:b c\t " ∧
    parseHeaderLine (ascii "X-A:b c\t ") = some (ascii "X-A", ascii "b c") := by decide +kernel

end Httpcore.C02H
