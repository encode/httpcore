import HttpcoreModel.Props.C03Parse
import HttpcoreModel.Props.Backend
import HttpcoreModel.Lemmas.Chunked
import HttpcoreModel.Url
/-!
# C03 — Requests are serialised faithfully on the wire (property theorems)
-/
namespace Httpcore.C03
open Httpcore Httpcore.H1 Httpcore.H1W

/-- **C03.reject_writes_nothing** — a request whose head h11 rejects (illegal method, target,
header name or value, missing/duplicate Host, conflicting Content-Length, unsupported
Transfer-Encoding) yields LocalProtocolError and not a single byte is written, whatever the body. -/
theorem reject_writes_nothing (r : Req) (chunks : List Bytes) (h : h11Request r = none) :
    writeRequest r chunks = ([], some .localProtocol) := by
  simp [writeRequest, h]

/-- an accepted head is always written completely and first -/
theorem head_written_first (r : Req) (chunks : List Bytes) (hs : List Header)
    (h : h11Request r = some hs) :
    ∃ body, (writeRequest r chunks).1 = writeHead r.method r.target hs ++ body := by
  simp only [writeRequest, h]
  split <;> exact ⟨_, rfl⟩

/-- **C03.host_first** — the header block on the wire is: the Host header line, then every other
header line in the caller's order (duplicates kept), then the blank line. -/
theorem host_first (hs : List Header) :
    writeHeaders hs =
      ((hs.filter isHost).map headerLine).flatten ++
      ((hs.filter (fun h => !isHost h)).map headerLine).flatten ++ crlf := rfl

/-- the non-Host headers keep their relative order and multiplicity (they form a sublist) -/
theorem others_in_order (hs : List Header) :
    (hs.filter (fun h => !isHost h)).Sublist hs ∧
    (hs.filter isHost ++ hs.filter (fun h => !isHost h)).Perm hs :=
  ⟨List.filter_sublist, List.filter_append_perm _ _⟩

/-- **C03.cl_body_exact** — with Content-Length framing, for every way the body iterator chunks
the body (empty chunks included), exactly the concatenation of the chunks is written, once and in
order, when the declared length matches. -/
theorem cl_body_exact (chunks : List Bytes) :
    writeCL chunks.flatten.length chunks = (chunks.flatten, none) := by
  induction chunks with
  | nil => rfl
  | cons c cs ih =>
    rw [List.flatten_cons, List.length_append, writeCL, if_neg (Nat.not_lt.mpr (Nat.le_add_right ..)), Nat.add_sub_cancel_left, ih]

/-- a body that does not match the declared Content-Length is never written to completion
silently: the writer reports an error -/
theorem cl_mismatch_detected (n : Nat) (chunks : List Bytes) (h : chunks.flatten.length ≠ n) :
    (writeCL n chunks).2 = some .h11Local := by
  fun_induction writeCL n chunks with
  | case1 n => exact if_neg (Ne.symm h)
  | case2 => rfl
  | case3 n c rest hle r ih =>
    rw [List.flatten_cons, List.length_append] at h
    exact ih (by omega)

/-- **C03.chunked_roundtrip** — with chunked framing, for every chunking of the body (empty
chunks included): the bytes written decode — with the chunked decoder of the reader model, an
independent function — to exactly the concatenation of the chunks followed by end-of-message, and
the decoder stops exactly at the end of what was written. -/
theorem chunked_roundtrip (ri : ReqInfo) (chunks : List Bytes) (rest : Bytes)
    (hsz : ∀ c ∈ chunks, (hexLower c.length).length ≤ 20) :
    ∃ evs, (reader ri).drain .chunkSize (writeChunked chunks ++ rest) = (evs, .done, rest) ∧
      (observe evs).body = chunks.flatten ∧ (observe evs).outcome = .complete := by
  obtain ⟨h1, h2⟩ := frames_chunked ri chunks hsz rest
  exact ⟨_, Prod.ext rfl h1, by simp [observe, h2, Obs.body], by simp [observe, h2]⟩

/-- empty chunks of the body iterator write nothing (they would otherwise end a chunked body) -/
theorem empty_chunk_writes_nothing : chunkEnc [] = [] := rfl

/-- **C03.defaults_only_if_missing** — `Host` is supplied iff the caller gave none, and exactly
one of Content-Length (bytes) / Transfer-Encoding: chunked (iterator) iff the caller gave neither;
the caller's headers are never touched (same order, values, duplicates). -/
theorem defaults_only_if_missing (hs : List Url.Header) (u : Url.URL) (c : Url.Content) :
    ∃ pre post, Url.includeRequestHeaders hs u c = pre ++ hs ++ post ∧
      pre = (if Url.hasHeader (ascii "host") hs then [] else [(ascii "Host", Url.hostHeaderValue u)]) ∧
      post = (if Url.hasHeader (ascii "content-length") hs || Url.hasHeader (ascii "transfer-encoding") hs
        then [] else match c with
          | .none => []
          | .bytes n => [(ascii "Content-Length", decimal n)]
          | .iter => [(ascii "Transfer-Encoding", ascii "chunked")]) := by
  refine ⟨_, _, ?_, rfl, rfl⟩
  by_cases h0 : Url.hasHeader (ascii "host") hs = true <;>
  by_cases h1 : Url.hasHeader (ascii "content-length") hs = true <;>
  by_cases h2 : Url.hasHeader (ascii "transfer-encoding") hs = true <;>
  cases c <;> simp [Url.includeRequestHeaders, h0, h1, h2]

/-- **C03.h2_mapping** — over HTTP/2 the request is handed to h2 as `:method`, `:authority` (the
value of the first Host header), `:scheme`, `:path`, followed by the caller's headers with
lower-cased names, without Host and Transfer-Encoding, in the caller's order; `end_stream` is set on
the head iff there is no Content-Length / Transfer-Encoding header. -/
theorem h2_mapping (method scheme target : Bytes) (hs : List Header) (l : List Header) (e : Bool)
    (h : h2Headers method scheme target hs = some (l, e)) :
    ∃ authority rest, l = (ascii ":method", method) :: (ascii ":authority", authority) ::
        (ascii ":scheme", scheme) :: (ascii ":path", target) :: rest ∧
      (hs.filter isHost).head? = some ((hs.filter isHost).head?.map (·.1) |>.getD [], authority) ∧
      rest = (hs.filter (fun h => !(lower h.1 = ascii "host" || lower h.1 = ascii "transfer-encoding"))).map
        (fun h => (lower h.1, h.2)) ∧
      (∀ x ∈ rest, x.1 ≠ ascii "host" ∧ x.1 ≠ ascii "transfer-encoding" ∧ lower x.1 = x.1) ∧
      e = !hasBodyHeaders hs := by
  unfold h2Headers at h
  split at h
  · cases h
  · rename_i n authority tl hf
    cases h
    refine ⟨authority, _, rfl, by simp [hf], rfl, ?_, rfl⟩
    intro x hx
    obtain ⟨y, hy, rfl⟩ := List.mem_map.mp hx
    simp only [List.mem_filter, Bool.not_eq_true', Bool.or_eq_false_iff, decide_eq_false_iff_not] at hy
    exact ⟨hy.2.1, hy.2.2, lower_idem y.1⟩

/-- a request without a Host header cannot be mapped (the implementation raises IndexError; via the
public request API a Host header is always present, see `defaults_only_if_missing`) -/
theorem h2_needs_host (method scheme target : Bytes) (hs : List Header) :
    h2Headers method scheme target hs = none ↔ hs.filter isHost = [] := by
  unfold h2Headers
  cases hs.filter isHost <;> simp

/-! ### HTTP/2 heads that cannot legally be encoded -/

/-- Tie A: httpcore leaves h2's validation of outgoing header blocks switched on. -/
theorem h2_validation_on : Gen.h2ValidatesOutbound = true ∧ Gen.h2NormalizesOutbound = true := by decide

/-- **C03.h2_illegal_rejected** — a head whose HTTP/2 form h2 refuses is rejected and nothing is
handed on (so nothing is written), for every method, target and header list. -/
theorem h2_illegal_rejected (method scheme target : Bytes) (hs l : List Header) (e : Bool)
    (h : h2Headers method scheme target hs = some (l, e)) (hr : h2Refuses l = true) :
    h2SendHead Gen.h2ValidatesOutbound method scheme target hs = .rejected := by
  simp [h2SendHead, h, hr, h2_validation_on.1]

/-- and a head it accepts is handed on unchanged -/
theorem h2_legal_handed (method scheme target : Bytes) (hs l : List Header) (e : Bool)
    (h : h2Headers method scheme target hs = some (l, e)) (hr : h2Refuses l = false) :
    h2SendHead Gen.h2ValidatesOutbound method scheme target hs = .handed l e := by
  simp [h2SendHead, h, hr]

theorem mem_h2Norm {method scheme target : Bytes} {hs l : List Header} {e : Bool}
    (h : h2Headers method scheme target hs = some (l, e)) {x : Header} (hx : x ∈ hs)
    (hne : lower x.1 ≠ ascii "host" ∧ lower x.1 ≠ ascii "transfer-encoding") :
    (strip (lower x.1), strip x.2) ∈ h2Norm l := by
  obtain ⟨_, _, rfl, _, rfl, _⟩ := h2_mapping _ _ _ _ _ _ h
  simp only [h2Norm, List.map_cons, List.map_map, List.mem_cons, List.mem_map, List.mem_filter]
  exact .inr (.inr (.inr (.inr ⟨x, ⟨hx, by simpa [not_or] using hne⟩, by simp⟩)))

/-- three of h2's rules look at one row only -/
theorem h2Refuses_of_row {l : List Header} {r : Header} (hr : r ∈ h2Norm l)
    (hbad : r.1 = ascii "te" ∧ lower r.2 ≠ ascii "trailers" ∨
      isPseudo r.1 = true ∧ allowedPseudo.contains r.1 = false ∨ r.1 = ascii ":path" ∧ r.2 = []) :
    h2Refuses l = true := by
  simp only [h2Refuses, Bool.or_eq_true, List.any_eq_true, List.mem_map, List.mem_filter]
  -- the first, the fourth and the last alternative of `h2Refuses`
  rcases hbad with h | h | h
  · exact .inl <| .inl <| .inl <| .inl <| .inl <| .inl <| .inl <| .inl ⟨r, hr, by simp [h]⟩
  · exact .inl <| .inl <| .inl <| .inl <| .inl <| .inr ⟨r.1, ⟨r, ⟨hr, h.1⟩, rfl⟩, by rw [h.2]; rfl⟩
  · exact .inr ⟨r, hr, by simp [h]⟩

/-- RFC 7540 §8.1.2.2: a `TE` header (any case) with a value other than `trailers` makes the head illegal -/
theorem h2_refuses_te (method scheme target : Bytes) (hs l : List Header) (e : Bool)
    (h : h2Headers method scheme target hs = some (l, e)) (x : Header) (hx : x ∈ hs)
    (hname : strip (lower x.1) = ascii "te") (hne : lower x.1 ≠ ascii "host" ∧ lower x.1 ≠ ascii "transfer-encoding")
    (hval : lower (strip x.2) ≠ ascii "trailers") : h2Refuses l = true :=
  h2Refuses_of_row (mem_h2Norm h hx hne) (.inl ⟨hname, hval⟩)

/-- RFC 7540 §8.1.2.3 / `_check_path_header`: an empty request target makes the head illegal -/
theorem h2_refuses_empty_path (method scheme : Bytes) (hs l : List Header) (e : Bool)
    (h : h2Headers method scheme [] hs = some (l, e)) : h2Refuses l = true := by
  obtain ⟨_, _, rfl, _⟩ := h2_mapping _ _ _ _ _ _ h
  exact h2Refuses_of_row (List.mem_map_of_mem (a := (ascii ":path", [])) (by simp)) (.inr (.inr ⟨by decide, rfl⟩))

/-- RFC 7540 §8.1.2.1: a caller's header whose name starts with `:` and is not one of the defined
pseudo-header fields makes the head illegal -/
theorem h2_refuses_custom_pseudo (method scheme target : Bytes) (hs l : List Header) (e : Bool)
    (h : h2Headers method scheme target hs = some (l, e)) (x : Header) (hx : x ∈ hs)
    (hp : isPseudo (strip (lower x.1)) = true) (hnot : allowedPseudo.contains (strip (lower x.1)) = false)
    (hne : lower x.1 ≠ ascii "host" ∧ lower x.1 ≠ ascii "transfer-encoding") : h2Refuses l = true :=
  h2Refuses_of_row (mem_h2Norm h hx hne) (.inr (.inl ⟨hp, hnot⟩))

/-! non-vacuity: each rule fires on a concrete head, and an ordinary head is accepted -/
example : h2SendHead true (ascii "GET") (ascii "https") (ascii "/") [(ascii "Host", ascii "h"), (ascii "TE", ascii "gzip")] = .rejected := by decide +kernel
example : h2SendHead true (ascii "GET") (ascii "https") [] [(ascii "Host", ascii "h")] = .rejected := by decide +kernel
example : h2SendHead true (ascii "GET") (ascii "https") (ascii "/") [(ascii "Host", ascii "h"), (ascii ":foo", ascii "1")] = .rejected := by decide +kernel
example : h2SendHead true (ascii "CONNECT") (ascii "https") (ascii "/") [(ascii "Host", ascii "h")] = .rejected := by decide +kernel
example : h2SendHead true (ascii "GET") (ascii "https") (ascii "/") [(ascii "Host", ascii "h"), (ascii "Te", ascii " Trailers ")] =
    .handed [(ascii ":method", ascii "GET"), (ascii ":authority", ascii "h"), (ascii ":scheme", ascii "https"), (ascii ":path", ascii "/"),
             (ascii "te", ascii " Trailers ")] true := by decide +kernel
/-- with validation switched off the same illegal head would be handed on: the theorem depends on the regenerated constant -/
example : h2SendHead false (ascii "GET") (ascii "https") (ascii "/") [(ascii "Host", ascii "h"), (ascii "TE", ascii "gzip")] ≠ .rejected := by decide +kernel

/-! non-vacuity -/
example : writeRequest ⟨ascii "POST", ascii "/x", [(ascii "Host", ascii "h"), (ascii "Transfer-Encoding", ascii "Chunked")]⟩
    [ascii "ab", [], ascii "c"] =
    (ascii "POST /x HTTP/1.1\r\nHost: h\r\nTransfer-Encoding: chunked\r\n\r\n2\r\nab\r\n1\r\nc\r\n0\r\n\r\n", none) := by
  decide +kernel
example : h11Request ⟨ascii "GE T", ascii "/", [(ascii "Host", ascii "h")]⟩ = none := by decide +kernel

end Httpcore.C03
