import HttpcoreModel.Props.Life
import HttpcoreModel.Props.C02
import HttpcoreModel.Props.C02Chunked
import HttpcoreModel.Props.C05
import HttpcoreModel.Props.C12
/-!
# C01 — Each response belongs to its own request (no cross-talk, no desync)

Three layers, each for all inputs / histories of its model:
* bytes: on a kept-alive HTTP/1.1 connection the second exchange reads exactly the second response, whatever part of it the
  first exchange's reads already pulled in (`h1_no_desync`);
* ownership: in every reachable state of the pool/connection transition system at most one caller uses a connection, and a
  connection in use is never idle, so it is never offered to anybody else (`exclusive_use`, `in_use_not_idle`);
* HTTP/2: a stream receives exactly its own events (`C12.own_stream_only`, re-exported).
-/
namespace Httpcore.C01
open Httpcore Httpcore.H1 Httpcore.C02

/-- an exchange read on a connection that stays open: Content-Length framing, any segmentation -/
theorem h1_exchange_open (ri : ReqInfo) (raw body rest : Bytes) (h : Head)
    (hg : HeadGives ri raw h (.cl body.length)) (segs : List Bytes)
    (hs : segs.flatten = raw ++ (body ++ rest)) :
    (readOpen ri segs).1 = { head := some h, bodyRev := body.reverse, outcome := .complete } ∧
    (readOpen ri segs).2.1 = .done ∧ (readOpen ri segs).2.2 = rest := by
  rw [(reads_of_frames hg (frames_cl ri body) rest segs hs).1]
  exact ⟨rfl, rfl, rfl⟩

/-! ## any mix of framings -/

/-- "this wire image is read as (h, body)": for every continuation and every segmentation the reader delivers exactly
`h` and `body`, complete, and leaves exactly the continuation unread -/
def Delivers (ri : ReqInfo) (wire : Bytes) (h : Head) (body : Bytes) : Prop :=
  ∀ (rest : Bytes) (segs : List Bytes), segs.flatten = wire ++ rest →
    (readOpen ri segs).1 = { head := some h, bodyRev := body.reverse, outcome := .complete } ∧
    (readOpen ri segs).2.2 = rest

theorem delivers_of_frames {ri : ReqInfo} {raw w body : Bytes} {h : Head} {s : St} (hg : HeadGives ri raw h s)
    (hf : Frames ri s w body) : Delivers ri (raw ++ w) h body := by
  intro rest segs hs
  rw [(reads_of_frames hg hf rest segs (by simpa using hs)).1]
  exact ⟨rfl, rfl⟩

theorem delivers_content_length (ri : ReqInfo) (raw body : Bytes) (h : Head)
    (hg : HeadGives ri raw h (.cl body.length)) : Delivers ri (raw ++ body) h body :=
  delivers_of_frames hg (frames_cl ri body)

theorem delivers_chunked (ri : ReqInfo) (raw : Bytes) (chunks : List Bytes) (h : Head)
    (hg : HeadGives ri raw h .chunkSize) (hsz : ∀ c ∈ chunks, (H1W.hexLower c.length).length ≤ 20) :
    Delivers ri (raw ++ H1W.writeChunked chunks) h chunks.flatten :=
  delivers_of_frames hg (H1W.frames_chunked ri chunks hsz)

/-- **C01.no_desync** — two exchanges in a row on one kept-alive connection, each response framed by Content-Length or
chunked encoding in any combination (`Delivers`, established by the two lemmas above): whatever prefix `pre2` of the second
response the first exchange's reads already pulled in, and however the bytes are cut into reads, the first caller gets
exactly (h1, body1), the reader keeps exactly `pre2`, and the second caller - starting from that leftover - gets exactly
(h2, body2) with nothing left over. -/
theorem no_desync (ri1 ri2 : ReqInfo) (w1 w2 body1 body2 pre2 : Bytes) (h1 h2 : Head)
    (d1 : Delivers ri1 w1 h1 body1) (d2 : Delivers ri2 w2 h2 body2) (segsA segsB : List Bytes)
    (hA : segsA.flatten = w1 ++ pre2) (hB : pre2 ++ segsB.flatten = w2) :
    (readOpen ri1 segsA).1 = { head := some h1, bodyRev := body1.reverse, outcome := .complete } ∧
    (readOpen ri1 segsA).2.2 = pre2 ∧
    (readOpen ri2 ((readOpen ri1 segsA).2.2 :: segsB)).1 = { head := some h2, bodyRev := body2.reverse, outcome := .complete } ∧
    (readOpen ri2 ((readOpen ri1 segsA).2.2 :: segsB)).2.2 = [] := by
  obtain ⟨e1, e2⟩ := d1 pre2 segsA hA
  refine ⟨e1, e2, ?_⟩
  rw [e2]
  exact d2 [] (pre2 :: segsB) (by simpa using hB)

/-- **C01.h1_no_desync** — two exchanges in a row on one kept-alive connection. The server sends `raw1 ++ body1` and then
`raw2 ++ body2`. The first exchange's reads (`segsA`) may already contain a prefix `pre2` of the second response; what the
reader has left over is handed to the second exchange (h11 `start_next_cycle` keeps its buffer), which reads on (`segsB`).
For every such split and every segmentation: the first caller gets exactly (h1, body1), the leftover is exactly `pre2`, and the
second caller gets exactly (h2, body2) - no byte of one response reaches the other caller. -/
theorem h1_no_desync (ri1 ri2 : ReqInfo) (raw1 body1 raw2 body2 pre2 : Bytes) (h1 h2 : Head)
    (hg1 : HeadGives ri1 raw1 h1 (.cl body1.length)) (hg2 : HeadGives ri2 raw2 h2 (.cl body2.length))
    (segsA segsB : List Bytes)
    (hA : segsA.flatten = raw1 ++ (body1 ++ pre2))
    (hB : pre2 ++ segsB.flatten = raw2 ++ body2) :
    (readOpen ri1 segsA).1 = { head := some h1, bodyRev := body1.reverse, outcome := .complete } ∧
    (readOpen ri1 segsA).2.2 = pre2 ∧
    (readOpen ri2 ((readOpen ri1 segsA).2.2 :: segsB)).1 = { head := some h2, bodyRev := body2.reverse, outcome := .complete } ∧
    (readOpen ri2 ((readOpen ri1 segsA).2.2 :: segsB)).2.2 = [] :=
  no_desync ri1 ri2 (raw1 ++ body1) (raw2 ++ body2) body1 body2 pre2 h1 h2 (delivers_content_length ri1 raw1 body1 h1 hg1)
    (delivers_content_length ri2 raw2 body2 h2 hg2) segsA segsB (by simpa using hA) hB

/-- the connection goes back to IDLE only if both sides are DONE, is available only when IDLE, and becomes ACTIVE only from
NEW or IDLE under the state lock (all three regenerated from the source) -/
theorem h1_reuse_rule : Gen.h1ReuseNeedsBothDone = true ∧ Gen.h1AvailableIffIdle = true ∧ Gen.h1GateFromNewOrIdleOnly = true := by
  decide

/-- the gate's test-and-set runs inside the connection's state lock (regenerated): between threads of the synchronous pool it
is one atomic step, which is what `Sys`'s `gate` action and `exclusive_use` assume -/
theorem h1_gate_atomic : Gen.h1GateUnderStateLock = true := by decide

/-- **C01.h2_broken_connection_not_offered** — an HTTP/2 connection on which an exchange went wrong at the connection level
(`_connection_error`: a write failed, h2 rejected a header block part-way through HPACK encoding, the peer violated the
protocol), whose stream ids are used up, or which is closed on either level, is not offered to any further request - for every
combination of the four flags (the expression is regenerated from `is_available`). -/
theorem h2_broken_connection_not_offered (closed connErr usedAll h2Closed : Bool) :
    Gen.h2Available closed connErr usedAll h2Closed = true →
      closed = false ∧ connErr = false ∧ usedAll = false ∧ h2Closed = false := by
  cases closed <;> cases connErr <;> cases usedAll <;> cases h2Closed <;> decide

/-- and a healthy one is (non-vacuity) -/
example : Gen.h2Available false false false false = true := by decide

/-! ## ownership (transition system `Sys`, every reachable state) -/
open Httpcore.Sys

/-- **C01.exclusive_use** — in every reachable state, two callers are never inside an exchange (sending/receiving or closing
the response) on the same connection. -/
theorem exclusive_use (as : List Action) (h : ∀ a ∈ as, Admissible a) (c t1 t2 : Nat)
    (h1 : ((run C05.current init as).tasks t1).pc = .io c ∨ ((run C05.current init as).tasks t1).pc = .closing c)
    (h2 : ((run C05.current init as).tasks t2).pc = .io c ∨ ((run C05.current init as).tasks t2).pc = .closing c) :
    t1 = t2 := by
  have inv := C05.inv_reachable as h
  have o1 : ((run C05.current init as).conns c).owner = some t1 := by
    rcases h1 with h1 | h1
    · exact (inv.io_owner c t1 h1).1
    · exact (inv.closing_owner c t1 h1).1
  have o2 : ((run C05.current init as).conns c).owner = some t2 := by
    rcases h2 with h2 | h2
    · exact (inv.io_owner c t2 h2).1
    · exact (inv.closing_owner c t2 h2).1
  rw [o1] at o2
  exact Option.some.inj o2

/-- **C01.in_use_not_idle** — a connection on which an exchange is under way is never IDLE, hence (`is_available() == IDLE`)
never offered to another request; it becomes IDLE again only through `closed` after an exchange that finished with both sides
done (`io … ok keepAlive`), and is closed otherwise. -/
theorem in_use_not_idle (as : List Action) (h : ∀ a ∈ as, Admissible a) (c t : Nat)
    (hp : ((run C05.current init as).tasks t).pc = .io c ∨ ((run C05.current init as).tasks t).pc = .closing c) :
    ((run C05.current init as).conns c).status ≠ .idle := by
  have inv := C05.inv_reachable as h
  rcases hp with hp | hp
  · have := (inv.io_owner c t hp).2
    rw [this]; decide
  · rcases (inv.closing_owner c t hp).2 with h1 | h1 <;> rw [h1] <;> decide

/-- an exchange that did not finish on both sides leaves the connection closed, never idle -/
theorem unfinished_exchange_closes (s : State) (t c : Nat) (o : Sys.Outcome) (ka : Bool)
    (hp : (s.tasks t).pc = .io c) (hbad : ¬ (o = .ok ∧ ka = true)) :
    ((step C05.current s (.io t o ka)).conns c).status = .closed := by
  simp only [step, hp]
  split
  · rename_i hx; exact absurd hx hbad
  · simp

/-- HTTP/2: a stream's queue receives exactly the events carrying its id (re-export of C12) -/
theorem h2_own_stream_only {α} (reg : List Nat) (evs : List (Nat × α)) (s : Nat) :
    H2.routeAll reg (fun _ => []) evs s = if s ∈ reg then (evs.filter (fun e => e.1 = s)).map (·.2) else [] :=
  C12.own_stream_only reg evs s

end Httpcore.C01
